/-
  VmMem.Props.C12x — C12 (Xen half, system-call level), histories: over every sequence of region constructions (any
  request, any pattern of failing system calls) and drops (any order), the kernel holds exactly the
  `mmap` ranges and grant mappings that the live regions own — nothing leaks, nothing is released
  twice, and once the last region is gone nothing is left.
  After `Props/C15x`; `ownMaps`, `ownGrants`: `Lemmas/XenBuildLemmas`.
-/
import VmMem.Props.C15x
namespace VmMem
namespace C12x
open Construct XenBuild C15x

inductive Op where
  | new (id : Nat) (r : Req) (sc : Script)
  | drop (id : Nat)

structure St where
  k : Kernel := {}
  live : List (Nat × Region) := []

def step (page : Nat) (s : St) : Op → St
  | .new id r sc =>
    if (s.live.find? (·.1 == id)).isSome then s else
    match fromRange r page s.k sc with
    | (.ok reg, k', _) => { k := k', live := (id, reg) :: s.live }
    | (.error _, k', _) => { s with k := k' }
  | .drop id =>
    match s.live.find? (·.1 == id) with
    | some e => { k := dropMap s.k e.2.map page, live := s.live.erase e }
    | none => s

def run (page : Nat) (s : St) (ops : List Op) : St := ops.foldl (step page) s

/-- the kernel's view and the live regions' view agree (as multisets) -/
def Inv (page : Nat) (s : St) : Prop :=
  s.k.maps.Perm (s.live.flatMap fun e => ownMaps e.2.map) ∧
  s.k.grants.Perm (s.live.flatMap fun e => ownGrants page e.2.map)

theorem newMap_ok_owns (r : Req) (f : Flags) (page : Nat) (k : Kernel) (sc : Script)
    (m : XMap) (k' : Kernel) (sc' : Script)
    (h : newMapWith mmapRange r f page k sc = (.ok m, k', sc')) :
    k'.maps = ownMaps m ++ k.maps ∧ k'.grants = ownGrants page m ++ k.grants :=
  ⟨(newMap_spec h).maps, (newMap_spec h).grants⟩

theorem dropMap_erases (k : Kernel) (m : XMap) (page : Nat) :
    (dropMap k m page).maps = (ownMaps m).foldl List.erase k.maps ∧
    (dropMap k m page).grants = (ownGrants page m).foldl List.erase k.grants := by
  cases m <;> simp [dropMap, unmapRange, ownMaps, ownGrants]

theorem foldl_erase_perm {β} [BEq β] [LawfulBEq β] (own rest l : List β) (h : l.Perm (own ++ rest)) :
    (own.foldl List.erase l).Perm rest := by
  induction own generalizing l with
  | nil => simpa using h
  | cons x xs ih =>
    simp only [List.foldl_cons]
    apply ih
    have : (l.erase x).Perm ((x :: (xs ++ rest)).erase x) := List.Perm.erase x (by simpa using h)
    simpa using this

theorem dropMap_no_fault (k : Kernel) (m : XMap) (page : Nat)
    (hm : ∀ x ∈ ownMaps m, x ∈ k.maps) (hg : ∀ x ∈ ownGrants page m, x ∈ k.grants) :
    (dropMap k m page).faults = k.faults := by
  cases m with
  | unix a s => exact munmapCall_faults (hm _ (by simp [ownMaps]))
  | «foreign» a s => exact munmapCall_faults (hm _ (by simp [ownMaps]))
  | grantAdvance a ms idx rs =>
    simp only [dropMap, unmapRange]
    rw [grantUnmapCall_faults (by simpa using hg _ (by simp [ownGrants])), munmapCall_faults (hm _ (by simp [ownMaps]))]
  | grantOnDemand => rfl

/-- one step keeps the invariant and, because of it, releases only what the kernel holds -/
theorem step_spec (page : Nat) (s : St) (op : Op) (h : Inv page s) :
    Inv page (step page s op) ∧ (step page s op).k.faults = s.k.faults := by
  cases op with
  | new id r sc =>
    simp only [step]
    by_cases hfind : (s.live.find? (·.1 == id)).isSome = true
    · rw [if_pos hfind]; exact ⟨h, rfl⟩
    · rw [if_neg hfind]
      generalize hf : fromRange r page s.k sc = x
      obtain ⟨o, k', sc'⟩ := x
      have g := fromRange_spec hf
      cases o with
      | error e =>
        simp only [Inv]
        rw [g.maps, g.grants]
        exact ⟨h, g.faults⟩
      | ok reg =>
        simp only [Inv, List.flatMap_cons]
        rw [g.maps, g.grants]
        exact ⟨⟨List.Perm.append_left _ h.1, List.Perm.append_left _ h.2⟩, g.faults⟩
  | drop id =>
    simp only [step]
    cases he : s.live.find? (·.1 == id) with
    | none => exact ⟨h, rfl⟩
    | some e =>
      have hmem : e ∈ s.live := List.mem_of_find?_eq_some he
      obtain ⟨d1, d2⟩ := dropMap_erases s.k e.2.map page
      simp only [Inv]
      rw [d1, d2]
      have hp := List.perm_cons_erase hmem
      exact ⟨⟨foldl_erase_perm _ _ _ (h.1.trans (hp.flatMap_right _)),
              foldl_erase_perm _ _ _ (h.2.trans (hp.flatMap_right _))⟩,
        dropMap_no_fault _ _ _ (fun x hx => h.1.mem_iff.2 (List.mem_flatMap.2 ⟨e, hmem, hx⟩))
          (fun x hx => h.2.mem_iff.2 (List.mem_flatMap.2 ⟨e, hmem, hx⟩))⟩

theorem step_inv (page : Nat) (s : St) (op : Op) (h : Inv page s) : Inv page (step page s op) :=
  (step_spec page s op h).1

/-- **every reachable state**: after any history of constructions and drops the kernel holds exactly what the
    live regions own -/
theorem run_inv (page : Nat) (ops : List Op) (s : St) (h : Inv page s) : Inv page (run page s ops) :=
  List.foldlRecOn ops (step page) h fun t ht op _ => step_inv page t op ht

theorem init_inv (page : Nat) : Inv page {} := ⟨List.Perm.refl _, List.Perm.refl _⟩

/-- **nothing is left once the last region is gone** — whatever was built, in whatever order it was dropped,
    whichever system calls failed on the way -/
theorem all_dropped_nothing_mapped (page : Nat) (ops : List Op)
    (h : (run page {} ops).live = []) : (run page {} ops).k.maps = [] ∧ (run page {} ops).k.grants = [] := by
  have := run_inv page ops {} (init_inv page)
  simp only [Inv, h, List.flatMap_nil] at this
  exact ⟨List.Perm.eq_nil this.1, List.Perm.eq_nil this.2⟩

/-- a live region's `mmap` ranges are still held by the kernel (no live handle designates something unmapped) -/
theorem live_region_still_mapped (page : Nat) (ops : List Op) (e : Nat × Region)
    (he : e ∈ (run page {} ops).live) (x : Nat × Nat) (hx : x ∈ ownMaps e.2.map) :
    x ∈ (run page {} ops).k.maps := by
  have := (run_inv page ops {} (init_inv page)).1
  exact this.mem_iff.2 (List.mem_flatMap.2 ⟨e, he, hx⟩)


/-! ### exactly once: over any history nothing is ever released twice -/
/-- **unmapped exactly once**: over any history of constructions and drops — any requests, any failing system calls,
    any drop order — the library never releases a range or a grant mapping it does not hold (no second `munmap`,
    no second unmap ioctl) -/
theorem run_no_fault (page : Nat) (ops : List Op) (s : St) (h : Inv page s) :
    (run page s ops).k.faults = s.k.faults :=
  (List.foldlRecOn ops (step page) (motive := fun t => Inv page t ∧ t.k.faults = s.k.faults) ⟨h, rfl⟩
    fun t ht op _ => ⟨step_inv page t op ht.1, (step_spec page t op ht.1).2.trans ht.2⟩).2

theorem history_no_fault (page : Nat) (ops : List Op) : (run page {} ops).k.faults = 0 :=
  run_no_fault page ops {} (init_inv page)

-- two pages at `base`, flag word `w`
def exReq (w : Flags) (base : Nat) : Req :=
  { size := 0x2000, file := some { fileLen := 0x100000, start := 0 }, prot := none, flags := none, xenFlags := w, xenData := 1, guestBase := base }
/-- four constructions (one failing half-way), both grant regions dropped -/
example : (run 4096 {} [.new 0 (exReq 2 0x5000) [], .new 1 (exReq 1 0x9000) [], .new 2 (exReq 2 0x5000) [true, false],
                        .new 3 (exReq 0xa 0x20000) [], .drop 0, .drop 3]).k.grants = [] := by decide
/-- grant region dropped: the foreign one stays mapped -/
example : ((run 4096 {} [.new 0 (exReq 2 0x5000) [], .new 1 (exReq 1 0x9000) [], .drop 0]).k.maps.length,
           (run 4096 {} [.new 0 (exReq 2 0x5000) [], .new 1 (exReq 1 0x9000) [], .drop 0]).live.length) = (1, 1) := by decide

end C12x
end VmMem
#print axioms VmMem.C12x.newMap_ok_owns
#print axioms VmMem.C12x.dropMap_erases
#print axioms VmMem.C12x.step_inv
#print axioms VmMem.C12x.run_inv
#print axioms VmMem.C12x.all_dropped_nothing_mapped
#print axioms VmMem.C12x.live_region_still_mapped
#print axioms VmMem.C12x.dropMap_no_fault
#print axioms VmMem.C12x.run_no_fault
#print axioms VmMem.C12x.history_no_fault
