/-
  VmMem.Props.C02 — address resolution over a well-formed layout: `find_region`, the
  provided methods of `GuestMemory` built on it (`to_region_addr`, `address_in_range`,
  `check_address`, `checked_offset`, `last_addr`, `get_host_address`, `get_slice`,
  `check_range`), `num_regions` / iteration order.

  `WF` and `mapped` are defined in `VmMem.Lemmas.GuestLemmas`.  Everything here except `get_slice` holds for the wider
  class `WFT` of layouts (a region may end exactly at 2^64) and is proved in Props/C02t; the theorems below are those
  read through `WF.toWFT`.  `get_slice` is the crate's own (`MmapRegion::get_slice`), so it is proved for `WF` only.

  What each theorem says in the crate's terms, and the remarks on hypotheses, stand with its original in Props/C02t.
-/
import VmMem.Props.C02t
namespace VmMem
namespace C02
open GuestLemmas

/-! ### find_region -/

theorem region_unique {m : GMem} (h : WF m) {a i j : Nat} {r s : Region}
    (hi : m[i]? = some r) (hj : m[j]? = some s)
    (hr : r.start ≤ a ∧ a < r.start + r.len) (hs : s.start ≤ a ∧ a < s.start + s.len) :
    i = j := GuestLemmas.region_unique h.toWFT hi hj hr hs

theorem findRegion_spec (m : GMem) (h : WF m) (a : Nat) :
    ∃ o, m.findRegion a = .ok o ∧
      (∀ i, o = some i ↔ ∃ r, m[i]? = some r ∧ r.start ≤ a ∧ a < r.start + r.len) :=
  C02t.findRegion_spec m h.toWFT a

theorem findRegion_some_iff (m : GMem) (h : WF m) (a i : Nat) :
    m.findRegion a = .ok (some i) ↔ ∃ r, m[i]? = some r ∧ r.start ≤ a ∧ a < r.start + r.len :=
  C02t.findRegion_some_iff m h.toWFT a i

theorem findRegion_none_iff (m : GMem) (h : WF m) (a : Nat) :
    m.findRegion a = .ok none ↔ ¬ mapped m a :=
  C02t.findRegion_none_iff m h.toWFT a

theorem findRegion_no_panic (m : GMem) (h : WF m) (a : Nat) :
    m.findRegion a ≠ .panic ∧ ∀ e, m.findRegion a ≠ .err e :=
  C02t.findRegion_no_panic m h.toWFT a

/-! ### the defaults built on find_region -/

theorem toRegionAddr_spec (m : GMem) (h : WF m) (a : Nat) :
    (∀ i ra, m.toRegionAddr a = .ok (some (i, ra)) ↔
        ∃ r, m[i]? = some r ∧ r.start ≤ a ∧ a < r.start + r.len ∧ ra = a - r.start) ∧
    (m.toRegionAddr a = .ok none ↔ ¬ mapped m a) ∧
    (∃ o, m.toRegionAddr a = .ok o) :=
  C02t.toRegionAddr_spec m h.toWFT a

theorem addressInRange_spec (m : GMem) (h : WF m) (a : Nat) :
    m.addressInRange a = .ok (decide (mapped m a)) :=
  C02t.addressInRange_spec m h.toWFT a

theorem addressInRange_iff (m : GMem) (h : WF m) (a : Nat) :
    m.addressInRange a = .ok true ↔ mapped m a :=
  C02t.addressInRange_iff m h.toWFT a

theorem checkAddress_spec (m : GMem) (h : WF m) (a : Nat) :
    m.checkAddress a = .ok (if mapped m a then some a else none) :=
  C02t.checkAddress_spec m h.toWFT a

theorem checkAddress_iff (m : GMem) (h : WF m) (a x : Nat) :
    m.checkAddress a = .ok (some x) ↔ x = a ∧ mapped m a :=
  C02t.checkAddress_iff m h.toWFT a x

theorem checkedOffset_eq (m : GMem) (h : WF m) (base off : Nat) :
    m.checkedOffset base off =
      .ok (if base + off < U ∧ mapped m (base + off) then some (base + off) else none) :=
  C02t.checkedOffset_eq m h.toWFT base off

theorem checkedOffset_spec (m : GMem) (h : WF m) (base off x : Nat) :
    m.checkedOffset base off = .ok (some x) ↔
      x = base + off ∧ base + off < U ∧ mapped m (base + off) :=
  C02t.checkedOffset_spec m h.toWFT base off x

theorem checkedOffset_none (m : GMem) (h : WF m) (base off : Nat) :
    m.checkedOffset base off = .ok none ↔ ¬ (base + off < U ∧ mapped m (base + off)) :=
  C02t.checkedOffset_none m h.toWFT base off

/-! ### last_addr -/

theorem lastAddr_nil : GMem.lastAddr [] = .ok 0 := rfl

theorem lastAddr_spec (m : GMem) (h : WF m) (hne : m ≠ []) :
    m.lastAddr = .ok ((m.getLast hne).start + (m.getLast hne).len - 1) ∧
    mapped m ((m.getLast hne).start + (m.getLast hne).len - 1) ∧
    ∀ a, mapped m a → a ≤ (m.getLast hne).start + (m.getLast hne).len - 1 :=
  C02t.lastAddr_spec m h.toWFT hne

theorem lastAddr_no_panic (m : GMem) (h : WF m) : ∃ a, m.lastAddr = .ok a :=
  C02t.lastAddr_no_panic m h.toWFT

/-- the regions' own requirement (what `GuestRegionMmap::new` enforces), without any order -/
def RegionsOk (m : GMem) : Prop := ∀ r ∈ m, 0 < r.len ∧ r.start + r.len < U

theorem lastAddr_order_independent (m m' : GMem) (hp : m'.Perm m) (h : RegionsOk m) :
    GMem.lastAddr m' = GMem.lastAddr m :=
  C02t.lastAddr_order_independent m m' hp fun r hr => ⟨(h r hr).1, Nat.le_of_lt (h r hr).2⟩

theorem lastAddr_perm_greatest (m m' : GMem) (hp : m'.Perm m) (h : WF m) (hne : m ≠ []) :
    ∃ a, GMem.lastAddr m' = .ok a ∧ mapped m a ∧ ∀ b, mapped m b → b ≤ a :=
  C02t.lastAddr_perm_greatest m m' hp h.toWFT hne

/-! ### get_host_address -/

theorem getHostAddress_spec (m : GMem) (h : WF m) (a : Nat) :
    (∀ p, m.getHostAddress a = .ok p ↔
        ∃ (i : Nat) (r : Region), m[i]? = some r ∧ r.start ≤ a ∧ a < r.start + r.len ∧ p = r.mem.base + (a - r.start)) ∧
    (m.getHostAddress a = .err (.invalidGuestAddress a) ↔ ¬ mapped m a) ∧
    m.getHostAddress a ≠ .panic :=
  C02t.getHostAddress_spec m h.toWFT a

/-! ### get_slice -/

theorem getSlice_of_getElem? {m : GMem} (h : WF m) {a i : Nat} {r : Region} (cnt : Nat)
    (hi : m[i]? = some r) (hin : r.start ≤ a ∧ a < r.start + r.len) :
    m.getSlice a cnt =
      if (a - r.start) + cnt ≤ r.len then
        .ok (i, { addr := r.mem.base + (a - r.start), size := cnt, bmBase := sliceAt 0 (a - r.start) })
      else .err .invalidBackendAddress := by
  unfold GMem.getSlice
  rw [toRegionAddr_of_getElem? h.toWFT hi hin]
  have hl := Nat.lt_of_le_of_lt (Nat.le_add_left _ _) (h.getElem? hi).2
  simp only [Res.bind_ok, hi, Region.getSlice_eq r hl]
  by_cases hc : (a - r.start) + cnt ≤ r.len <;> simp [hc]

theorem getSlice_unmapped {m : GMem} (h : WF m) {a : Nat} (cnt : Nat) (hn : ¬ mapped m a) :
    m.getSlice a cnt = .err (.invalidGuestAddress a) := by
  unfold GMem.getSlice
  rw [toRegionAddr_of_unmapped h.toWFT hn]
  simp

theorem getSlice_too_long {m : GMem} (h : WF m) {a i : Nat} {r : Region} {cnt : Nat}
    (hi : m[i]? = some r) (hin : r.start ≤ a ∧ a < r.start + r.len)
    (hlong : r.len < (a - r.start) + cnt) :
    m.getSlice a cnt = .err .invalidBackendAddress := by
  rw [getSlice_of_getElem? h cnt hi hin, if_neg (Nat.not_le.2 hlong)]

/-- `get_slice` succeeds iff `a` is in region `i` and the whole range fits that region;
    the slice starts at the host address of `a` and has the requested size. -/
theorem getSlice_spec (m : GMem) (h : WF m) (a cnt i : Nat) (s : VSlice) :
    m.getSlice a cnt = .ok (i, s) ↔
      ∃ r, m[i]? = some r ∧ r.start ≤ a ∧ a < r.start + r.len ∧ (a - r.start) + cnt ≤ r.len ∧
        s = { addr := r.mem.base + (a - r.start), size := cnt, bmBase := sliceAt 0 (a - r.start) } := by
  rcases mapped_or_not m a with ⟨j, r, hj, hin⟩ | hn
  · rw [getSlice_of_getElem? h cnt hj hin]
    constructor
    · intro e
      split at e
      · rename_i hfit
        cases e
        exact ⟨r, hj, hin.1, hin.2, hfit, rfl⟩
      · cases e
    · rintro ⟨r', hr', h1, h2, hfit, rfl⟩
      exact (getSlice_of_getElem? h cnt hj hin).symm.trans
        ((getSlice_of_getElem? h cnt hr' ⟨h1, h2⟩).trans (if_pos hfit))
  · rw [getSlice_unmapped h cnt hn]
    refine ⟨nofun, ?_⟩
    rintro ⟨r', hr', h1, h2, _⟩
    exact absurd (mapped_of_getElem? hr' ⟨h1, h2⟩) hn

theorem getSlice_addr_size {m : GMem} (h : WF m) {a cnt i : Nat} {s : VSlice}
    (hs : m.getSlice a cnt = .ok (i, s)) :
    ∃ r, m[i]? = some r ∧ s.addr = r.mem.base + (a - r.start) ∧ s.size = cnt ∧
      m.getHostAddress a = .ok s.addr := by
  obtain ⟨r, hr, h1, h2, _, rfl⟩ := (getSlice_spec m h a cnt i s).1 hs
  exact ⟨r, hr, rfl, rfl, C02t.getHostAddress_of_getElem? h.toWFT hr ⟨h1, h2⟩⟩

/-- every outcome of `get_slice` is one of the three; it never panics -/
theorem getSlice_cases (m : GMem) (h : WF m) (a cnt : Nat) :
    (∃ i s, m.getSlice a cnt = .ok (i, s)) ∨
    (¬ mapped m a ∧ m.getSlice a cnt = .err (.invalidGuestAddress a)) ∨
    (mapped m a ∧ m.getSlice a cnt = .err .invalidBackendAddress) := by
  rcases mapped_or_not m a with ⟨j, r, hj, hin⟩ | hn
  · rw [getSlice_of_getElem? h cnt hj hin]
    by_cases hc : (a - r.start) + cnt ≤ r.len
    · exact .inl ⟨_, _, if_pos hc⟩
    · exact .inr (.inr ⟨mapped_of_getElem? hj hin, if_neg hc⟩)
  · exact .inr (.inl ⟨hn, getSlice_unmapped h cnt hn⟩)

/-- a zero-length slice at a mapped address is granted (and refused at an unmapped one) -/
theorem getSlice_zero (m : GMem) (h : WF m) (a : Nat) :
    (∃ i s, m.getSlice a 0 = .ok (i, s) ∧ s.size = 0) ↔ mapped m a := by
  rcases mapped_or_not m a with ⟨j, r, hj, hin⟩ | hn
  · have hm := mapped_of_getElem? hj hin
    rw [getSlice_of_getElem? h 0 hj hin, if_pos (by omega)]
    simp only [hm, iff_true]
    exact ⟨_, _, rfl, rfl⟩
  · rw [getSlice_unmapped h 0 hn]
    simp [hn]

/-! ### check_range -/

theorem checkRange_spec (m : GMem) (h : WF m) (base len : Nat) (hl : len < U) (hpos : 0 < len) :
    (m.checkRange base len = .ok true ↔ ∀ i, i < len → base + i < U ∧ mapped m (base + i)) ∧
    (∃ b, m.checkRange base len = .ok b) :=
  C02t.checkRange_spec m h.toWFT base len hl hpos

theorem checkRange_eq_decide (m : GMem) (h : WF m) (base len : Nat) (hl : len < U) (hpos : 0 < len) :
    m.checkRange base len = .ok (decide (∀ i, i < len → base + i < U ∧ mapped m (base + i))) :=
  C02t.checkRange_eq_decide m h.toWFT base len hl hpos

theorem checkRange_zero (m : GMem) (base : Nat) : m.checkRange base 0 = .ok true :=
  checkRange_zero_eq m base

theorem checkRange_all (m : GMem) (h : WF m) (base len : Nat) (hl : len < U) :
    m.checkRange base len = .ok true ↔ ∀ i, i < len → base + i < U ∧ mapped m (base + i) :=
  C02t.checkRange_all m h.toWFT base len hl

/-! ### num_regions and iteration order -/

theorem numRegions_eq (m : GMem) : m.numRegions = m.length := rfl

theorem iter_sorted (m : GMem) (h : WF m) : m.Pairwise (fun r s => r.start < s.start) := h.toWFT.starts_lt

theorem iter_sorted_idx (m : GMem) (h : WF m) {i j : Nat} {r s : Region}
    (hi : m[i]? = some r) (hj : m[j]? = some s) (hij : i < j) : r.start < s.start :=
  C02t.iter_sorted_idx m h.toWFT hi hj hij

/-! ### non-vacuity: a concrete three-region layout -/

def mem (base n : Nat) : Mem := { base := base, bytes := List.replicate n 0, bm := none }

/-- regions `[0,5)`, `[5,8)` (adjacent) and `[U-16, U-1)` (ends at `U-2`) -/
def ex : GMem :=
  [ { start := 0, mem := mem 0x1000 5, id := 1 },
    { start := 5, mem := mem 0x2000 3, id := 2 },
    { start := 0xFFFF_FFFF_FFFF_FFF0, mem := mem 0x3000 15, id := 3 } ]

theorem ex_WF : WF ex := by decide

example : ex.findRegion 0 = .ok (some 0) := by decide
example : ex.findRegion 4 = .ok (some 0) := by decide
example : ex.findRegion 5 = .ok (some 1) := by decide
example : ex.findRegion 7 = .ok (some 1) := by decide
example : ex.findRegion 8 = .ok none := by decide
example : ex.findRegion 0xFFFF_FFFF_FFFF_FFEF = .ok none := by decide
example : ex.findRegion 0xFFFF_FFFF_FFFF_FFFE = .ok (some 2) := by decide
example : ex.findRegion 0xFFFF_FFFF_FFFF_FFFF = .ok none := by decide
example : ex.toRegionAddr 6 = .ok (some (1, 1)) := by decide
example : ex.lastAddr = .ok 0xFFFF_FFFF_FFFF_FFFE := by decide
example : ex.getHostAddress 6 = .ok 0x2001 := by decide
example : ex.getHostAddress 8 = .err (.invalidGuestAddress 8) := by decide
example : ex.getSlice 3 2 = .ok (0, { addr := 0x1003, size := 2, bmBase := 3 }) := by decide
example : ex.getSlice 3 3 = .err .invalidBackendAddress := by decide
example : ex.getSlice 8 0 = .err (.invalidGuestAddress 8) := by decide
example : ex.checkedOffset 0xFFFF_FFFF_FFFF_FFF0 0x10 = .ok none := by decide
example : ex.checkedOffset 2 4 = .ok (some 6) := by decide

/-- a two-region range evaluated directly on the model (two iterations of the loop) -/
example : ex.checkRange 3 5 = .ok true := by decide +kernel
/- the loop is defined by well-founded recursion, which the kernel unfolds and plain `decide` does not; the same
   query through `checkRange_eq_decide` -/
example : ex.checkRange 3 5 = .ok true :=
  (checkRange_eq_decide ex ex_WF 3 5 (by decide) (by decide)).trans (by decide)
example : ex.checkRange 3 6 = .ok false := by decide +kernel
example : ex.checkRange 0xFFFF_FFFF_FFFF_FFF0 15 = .ok true := by decide +kernel
example : ex.checkRange 0xFFFF_FFFF_FFFF_FFF0 16 = .ok false := by decide +kernel
example : ex.checkRange 8 0 = .ok true := checkRange_zero ex 8
example : ex.checkRange 7 0 = .ok true := checkRange_zero ex 7

end C02
end VmMem

#print axioms VmMem.C02.region_unique
#print axioms VmMem.C02.findRegion_spec
#print axioms VmMem.C02.findRegion_some_iff
#print axioms VmMem.C02.findRegion_none_iff
#print axioms VmMem.C02.findRegion_no_panic
#print axioms VmMem.C02.toRegionAddr_spec
#print axioms VmMem.C02.addressInRange_spec
#print axioms VmMem.C02.addressInRange_iff
#print axioms VmMem.C02.checkAddress_spec
#print axioms VmMem.C02.checkAddress_iff
#print axioms VmMem.C02.checkedOffset_eq
#print axioms VmMem.C02.checkedOffset_spec
#print axioms VmMem.C02.checkedOffset_none
#print axioms VmMem.C02.getHostAddress_spec
#print axioms VmMem.C02.getSlice_spec
#print axioms VmMem.C02.getSlice_addr_size
#print axioms VmMem.C02.getSlice_unmapped
#print axioms VmMem.C02.getSlice_too_long
#print axioms VmMem.C02.getSlice_cases
#print axioms VmMem.C02.getSlice_zero
#print axioms VmMem.C02.lastAddr_nil
#print axioms VmMem.C02.lastAddr_spec
#print axioms VmMem.C02.lastAddr_no_panic
#print axioms VmMem.C02.checkRange_spec
#print axioms VmMem.C02.checkRange_eq_decide
#print axioms VmMem.C02.checkRange_zero
#print axioms VmMem.C02.checkRange_all
#print axioms VmMem.C02.numRegions_eq
#print axioms VmMem.C02.iter_sorted
#print axioms VmMem.C02.iter_sorted_idx
#print axioms VmMem.C02.ex_WF
#print axioms VmMem.C02.lastAddr_order_independent
#print axioms VmMem.C02.lastAddr_perm_greatest
