/-
  VmMem.Props.C13 — the `ReadVolatile` / `WriteVolatile` adapters for `&[u8]`, `&mut [u8]`,
  `Vec<u8>` and `Cursor<_>` equal their `std::io::Read` / `std::io::Write` counterparts.

  The std side is the small model `VmMem.C13.Std` below, written from the std documentation:
  an ordinary buffer of `s.size` bytes stands for the `VolatileSlice`.  A `Reader`/`Writer`
  with an empty script is the plain adapter (an exhausted script behaves as `full`).

  `BmInv`, `InB`, `splice` are those of `VmMem.Lemmas.IoLemmas`; `o := s.addr - m.base`.
-/
import VmMem.Lemmas.IoLemmas
namespace VmMem.C13
open VmMem IoLemmas VolatileLemmas

/-! ### the std model (from the std documentation / source of `std::io`) -/
namespace Std

/-- `impl Read for &[u8]`: `amt = min(buf.len(), self.len())`; copies `self[..amt]` to the front
    of `buf`; `*self = &self[amt..]`.  Returns `(n, bytes put at the front of buf, remaining)`. -/
def readSlice (data : List UInt8) (buflen : Nat) : Nat × List UInt8 × List UInt8 :=
  let amt := min buflen data.length
  (amt, data.take amt, data.drop amt)

/-- `<&[u8] as Read>::read_exact`: `Err(UnexpectedEof)` iff `buf.len() > self.len()`; on success
    fills the whole buffer and consumes `buf.len()` bytes.  (What is left of the slice after a
    failure is not specified by the trait; vm-memory leaves it unchanged.) -/
def readExactSlice (data : List UInt8) (buflen : Nat) : Res (List UInt8 × List UInt8) :=
  if buflen > data.length then .err (.ioError IoKind.unexpectedEof)
  else .ok (data.take buflen, data.drop buflen)

/-- `Cursor<T: AsRef<[u8]>>::read`: `Read::read(&mut inner[min(pos, len)..], buf)`, `pos += n`.
    Returns `(n, bytes put at the front of buf, new position)`. -/
def cursorRead (inner : List UInt8) (pos buflen : Nat) : Nat × List UInt8 × Nat :=
  let (n, moved, _) := readSlice (inner.drop (min pos inner.length)) buflen
  (n, moved, pos + n)

/-- `Cursor::read_exact`: `read_exact` on the remaining slice; the position advances by
    `buf.len()` on success. -/
def cursorReadExact (inner : List UInt8) (pos buflen : Nat) : Res (List UInt8 × Nat) :=
  match readExactSlice (inner.drop (min pos inner.length)) buflen with
  | .ok (moved, _) => .ok (moved, pos + buflen)
  | .err e => .err e
  | .panic => .panic

/-- `impl Write for &mut [u8]`: `amt = min(data.len(), self.len())`; copies `data[..amt]` into the
    front of the slice; the slice becomes its tail.  Returns `(n, contents of the old slice
    afterwards)`; the new (remaining) slice is the last `room.length - n` bytes of it. -/
def writeMutSlice (room src : List UInt8) : Nat × List UInt8 :=
  let amt := min src.length room.length
  (amt, src.take amt ++ room.drop amt)

/-- `<&mut [u8] as Write>::write_all`: `if self.write(data)? == data.len() { Ok(()) } else
    { Err(WriteZero) }` — the prefix that fits is written in either case. -/
def writeAllMutSlice (room src : List UInt8) : List UInt8 × Res Unit :=
  let (n, room') := writeMutSlice room src
  (room', if n = src.length then .ok () else .err (.ioError IoKind.writeZero))

/-- `impl Write for Vec<u8>`: `extend_from_slice`, returns `buf.len()` -/
def writeVec (v src : List UInt8) : List UInt8 × Nat := (v ++ src, src.length)

/-- `Cursor<&mut [u8]>::write`: `(&mut inner[min(pos, len)..]).write(buf)`, `pos += n`.
    Returns `(n, inner afterwards, new position)`. -/
def cursorWrite (inner : List UInt8) (pos : Nat) (src : List UInt8) : Nat × List UInt8 × Nat :=
  let p := min pos inner.length
  let (n, room') := writeMutSlice (inner.drop p) src
  (n, inner.take p ++ room', pos + n)

end Std

/-- the bytes of slice `s` as an ordinary `&[u8]` -/
def srcBytes (m : Mem) (s : VSlice) : List UInt8 := (m.bytes.drop (s.addr - m.base)).take s.size

theorem srcBytes_length {m : Mem} {s : VSlice} (hin : InB m s) : (srcBytes m s).length = s.size :=
  DataLemmas.take_drop_length _ _ _ (hin.fits (Nat.le_refl _))

/-! ### 1. readers with an empty script: `&[u8]` -/

/-- one call of a plain reader, any kind: the first `min(s.size, available)` bytes -/
theorem readVolatile_nil (r : Reader) (m : Mem) (s : VSlice) (hs : r.script = [])
    (hbm : BmInv m) (hin : InB m s) :
    ∃ m', r.readVolatile m s =
        (m', r.advance (min s.size r.avail.length), .ok (min s.size r.avail.length)) ∧
      Reader.Moved r m (s.addr - m.base) (r.advance (min s.size r.avail.length)) m'
        (min s.size r.avail.length) := by
  have hx : xfer (hd r.script) s.size r.avail.length = some (min s.size r.avail.length) := by
    rw [hs]; rfl
  obtain ⟨m', h, hmv⟩ := Reader.readVolatile_moved hbm hin hx
  rw [Reader.next_of_nil hs] at h hmv
  exact ⟨m', h, hmv⟩

/-- `read_exact_volatile` of a plain `&[u8]` / `Cursor`: everything or nothing -/
theorem readExact_nil (r : Reader) (m : Mem) (s : VSlice) (hk : r.kind = .slice ∨ r.kind = .cursor)
    (hs : r.script = []) (hbm : BmInv m) (hin : InB m s) :
    if s.size > r.avail.length then r.readExact m s = (m, r, .err (.ioError IoKind.unexpectedEof))
    else ∃ m', r.readExact m s = (m', r.advance s.size, .ok ()) ∧
      m'.bytes = splice m.bytes (s.addr - m.base) (r.avail.take s.size) ∧
      (∀ i, i < s.addr - m.base ∨ s.addr - m.base + s.size ≤ i → m'.bytes[i]? = m.bytes[i]?) ∧
      m'.base = m.base ∧ BmInv m' := by
  rw [Reader.readExact_override r m s hk]
  by_cases hgt : s.size > r.avail.length
  · rw [if_pos hgt, if_pos hgt]
  · rw [if_neg hgt, if_neg hgt]
    obtain ⟨m', h, hmv⟩ := readVolatile_nil r m s hs hbm hin
    rw [Nat.min_eq_left (Nat.le_of_not_lt hgt)] at h hmv
    rw [h]
    exact ⟨m', rfl, hmv.bytes, hmv.frame (hin.fits (Nat.le_refl _)), hmv.base, hmv.bm⟩

/-- … and `Ok` exactly when enough bytes are available -/
theorem readExact_nil_ok_iff (r : Reader) (m : Mem) (s : VSlice)
    (hk : r.kind = .slice ∨ r.kind = .cursor) (hs : r.script = []) (hbm : BmInv m) (hin : InB m s) :
    ((r.readExact m s).2.2 = .ok () ↔ s.size ≤ r.avail.length) ∧
    (r.avail.length < s.size → r.readExact m s = (m, r, .err (.ioError IoKind.unexpectedEof))) := by
  have h := readExact_nil r m s hk hs hbm hin
  by_cases hgt : s.size > r.avail.length
  · rw [if_pos hgt] at h
    rw [h]
    exact ⟨⟨fun h => (by cases h), fun h => absurd h (Nat.not_le.2 hgt)⟩, fun _ => rfl⟩
  · rw [if_neg hgt] at h
    obtain ⟨m', h, _⟩ := h
    rw [h]
    exact ⟨⟨fun _ => Nat.le_of_not_lt hgt, fun _ => rfl⟩, fun h => absurd h hgt⟩

/-- `&[u8]`: `read_volatile` moves the same bytes, returns the same
    count and leaves the same remaining stream as `Read::read` into an ordinary buffer of
    `s.size` bytes; nothing outside `[o, o + n)` is touched. -/
theorem slice_read_eq_std (r : Reader) (m : Mem) (s : VSlice) (hk : r.kind = .slice)
    (hs : r.script = []) (hbm : BmInv m) (hin : InB m s) :
    ∃ m', r.readVolatile m s =
        (m', { r with data := (Std.readSlice r.data s.size).2.2 },
          .ok (Std.readSlice r.data s.size).1) ∧
      m'.bytes = splice m.bytes (s.addr - m.base) (Std.readSlice r.data s.size).2.1 ∧
      (∀ i, i < s.addr - m.base ∨ s.addr - m.base + (Std.readSlice r.data s.size).1 ≤ i →
        m'.bytes[i]? = m.bytes[i]?) ∧
      m'.base = m.base ∧ BmInv m' := by
  obtain ⟨m', h, hmv⟩ := readVolatile_nil r m s hs hbm hin
  have hfr := hmv.frame (hin.fits (Nat.min_le_left _ _))
  have hb := hmv.bytes
  rw [Reader.avail_slice hk] at h hb hfr
  rw [Reader.advance_slice hk] at h
  exact ⟨m', h, hb, hfr, hmv.base, hmv.bm⟩

/-- `<&[u8]>::read_exact`: success iff `std` succeeds; on success
    exactly the first `s.size` bytes are moved and consumed; on failure `UnexpectedEof`, memory
    and stream unchanged. -/
theorem slice_readExact_eq_std (r : Reader) (m : Mem) (s : VSlice) (hk : r.kind = .slice)
    (hs : r.script = []) (hbm : BmInv m) (hin : InB m s) :
    match Std.readExactSlice r.data s.size with
    | .ok (moved, rest) =>
        ∃ m', r.readExact m s = (m', { r with data := rest }, .ok ()) ∧
          m'.bytes = splice m.bytes (s.addr - m.base) moved ∧
          (∀ i, i < s.addr - m.base ∨ s.addr - m.base + s.size ≤ i → m'.bytes[i]? = m.bytes[i]?) ∧
          m'.base = m.base ∧ BmInv m'
    | .err e => r.readExact m s = (m, r, .err e)
    | .panic => False := by
  have h := readExact_nil r m s (.inl hk) hs hbm hin
  rw [Reader.avail_slice hk, Reader.advance_slice hk] at h
  unfold Std.readExactSlice
  by_cases hgt : s.size > r.data.length
  · rw [if_pos hgt] at h ⊢; exact h
  · rw [if_neg hgt] at h ⊢; exact h

theorem slice_readExact_ok_iff (r : Reader) (m : Mem) (s : VSlice) (hk : r.kind = .slice)
    (hs : r.script = []) (hbm : BmInv m) (hin : InB m s) :
    ((r.readExact m s).2.2 = .ok () ↔ s.size ≤ r.data.length) ∧
    (r.data.length < s.size → r.readExact m s = (m, r, .err (.ioError IoKind.unexpectedEof))) := by
  have h := readExact_nil_ok_iff r m s (.inl hk) hs hbm hin
  rwa [Reader.avail_slice hk] at h

/-! ### 2. `Cursor<T: AsRef<[u8]>>` -/

/-- `Cursor::read`: same bytes, same count, same new position as
    `std`; the inner buffer is untouched.  Includes positions past the end. -/
theorem cursor_read_eq_std (r : Reader) (m : Mem) (s : VSlice) (hk : r.kind = .cursor)
    (hs : r.script = []) (hbm : BmInv m) (hin : InB m s) :
    ∃ m', r.readVolatile m s =
        (m', { r with pos := (Std.cursorRead r.data r.pos s.size).2.2 },
          .ok (Std.cursorRead r.data r.pos s.size).1) ∧
      m'.bytes = splice m.bytes (s.addr - m.base) (Std.cursorRead r.data r.pos s.size).2.1 ∧
      (∀ i, i < s.addr - m.base ∨ s.addr - m.base + (Std.cursorRead r.data r.pos s.size).1 ≤ i →
        m'.bytes[i]? = m.bytes[i]?) ∧
      m'.base = m.base ∧ BmInv m' := by
  obtain ⟨m', h, hmv⟩ := readVolatile_nil r m s hs hbm hin
  have hfr := hmv.frame (hin.fits (Nat.min_le_left _ _))
  have hb := hmv.bytes
  rw [Reader.avail_cursor hk] at h hb hfr
  rw [Reader.advance_cursor hk] at h
  exact ⟨m', h, hb, hfr, hmv.base, hmv.bm⟩

/-- a cursor positioned at or past the end reads nothing: `Ok(0)`, nothing changes -/
theorem cursor_read_past_end (r : Reader) (m : Mem) (s : VSlice) (hk : r.kind = .cursor)
    (hs : r.script = []) (hbm : BmInv m) (hin : InB m s) (hp : r.data.length ≤ r.pos) :
    ∃ m', r.readVolatile m s = (m', r, .ok 0) ∧ m'.bytes = m.bytes ∧ m'.base = m.base := by
  obtain ⟨m', h, hb, _, hbase, _⟩ := cursor_read_eq_std r m s hk hs hbm hin
  have h0 : min s.size (r.data.drop (min r.pos r.data.length)).length = 0 := by
    rw [List.length_drop, Nat.min_eq_right hp, Nat.sub_self, Nat.min_zero]
  simp only [Std.cursorRead, Std.readSlice, h0] at h hb
  refine ⟨m', ?_, ?_, hbase⟩
  · rw [h]; rfl
  · rw [hb, List.take_zero]; exact DataLemmas.splice_nil _ _

/-- `Cursor::read_exact`: success iff `std` succeeds, the position
    advances by `s.size` only on success; otherwise `UnexpectedEof` and nothing changes. -/
theorem cursor_readExact_eq_std (r : Reader) (m : Mem) (s : VSlice) (hk : r.kind = .cursor)
    (hs : r.script = []) (hbm : BmInv m) (hin : InB m s) :
    match Std.cursorReadExact r.data r.pos s.size with
    | .ok (moved, pos') =>
        ∃ m', r.readExact m s = (m', { r with pos := pos' }, .ok ()) ∧
          m'.bytes = splice m.bytes (s.addr - m.base) moved ∧
          (∀ i, i < s.addr - m.base ∨ s.addr - m.base + s.size ≤ i → m'.bytes[i]? = m.bytes[i]?) ∧
          m'.base = m.base ∧ BmInv m'
    | .err e => r.readExact m s = (m, r, .err e)
    | .panic => False := by
  have h := readExact_nil r m s (.inr hk) hs hbm hin
  rw [Reader.avail_cursor hk, Reader.advance_cursor hk] at h
  unfold Std.cursorReadExact Std.readExactSlice
  by_cases hgt : s.size > (r.data.drop (min r.pos r.data.length)).length
  · rw [if_pos hgt] at h ⊢; exact h
  · rw [if_neg hgt] at h ⊢; exact h

/-- exact read of a non-empty buffer at or past the end of a cursor: `UnexpectedEof` -/
theorem cursor_readExact_past_end (r : Reader) (m : Mem) (s : VSlice) (hk : r.kind = .cursor)
    (hp : r.data.length ≤ r.pos) (hsz : 0 < s.size) :
    r.readExact m s = (m, r, .err (.ioError IoKind.unexpectedEof)) := by
  rw [Reader.readExact_override r m s (.inr hk), Reader.avail_cursor hk, List.length_drop,
    Nat.min_eq_right hp, Nat.sub_self, if_pos hsz]

theorem cursor_readExact_ok_iff (r : Reader) (m : Mem) (s : VSlice) (hk : r.kind = .cursor)
    (hs : r.script = []) (hbm : BmInv m) (hin : InB m s) :
    (r.readExact m s).2.2 = .ok () ↔ s.size ≤ r.data.length - min r.pos r.data.length := by
  have h := (readExact_nil_ok_iff r m s (.inr hk) hs hbm hin).1
  rwa [Reader.avail_cursor hk, List.length_drop] at h

/-! ### 3. writers with an empty script -/

/-- one call with an empty script hands the first `cap` bytes of the slice to the sink, where
    `cap = min(s.size, room)` (`s.size` for an unbounded sink); memory is only read -/
theorem writeVolatile_nil (w : Writer) (m : Mem) (s : VSlice) (hs : w.script = [])
    (hin : InB m s) :
    w.writeVolatile m s = (w.accept ((srcBytes m s).take (w.cap s.size)), .ok (w.cap s.size)) := by
  have hc := Writer.cap_le w s.size
  have hx : xfer (hd w.script) s.size (w.cap s.size) = some (w.cap s.size) := by
    rw [hs]; exact congrArg some (Nat.min_eq_right hc)
  rw [Writer.writeVolatile_eq_xfer, hx, Writer.next_of_nil hs]
  simp only []
  rw [Writer.wvCopy_ok hin w hc]
  unfold srcBytes
  rw [List.take_take, Nat.min_eq_left hc]

/-- a bounded sink that accepted exactly its room has no room left -/
theorem room_accept_full {w : Writer} {rm : Nat} (hr : w.room = some rm) (d : List UInt8)
    (hd : d.length = rm) : (w.accept d).room = some 0 := by
  by_cases h0 : rm = 0
  · rw [List.eq_nil_of_length_eq_zero (hd.trans h0), Writer.accept_nil, hr, h0]
  · -- `d` is not empty, so the position lies inside the buffer and `d` ends at its end
    obtain ⟨k, b, p, sc⟩ := w
    cases k <;> simp only [Writer.room, Option.some.injEq, reduceCtorEq] at hr
    · have hpd : p + d.length = b.length := by omega
      have hl : (spliceAt b p d).length = b.length := DataLemmas.splice_length b p d (Nat.le_of_eq hpd)
      simp only [Writer.accept, Writer.room, hl, hpd, Nat.sub_self]
    · have hp : min p b.length = p := by omega
      have hpd : p + d.length = b.length := by omega
      have hl : (spliceAt b p d).length = b.length := DataLemmas.splice_length b p d (Nat.le_of_eq hpd)
      simp only [Writer.accept, Writer.room, hp, hl, hpd, Nat.min_self, Nat.sub_self]

/-- The default `write_all_volatile` loop with an empty script: one call takes `cap =
    min(p.size, room)` bytes; `Ok` iff that is everything, else the next call returns `Ok(0)`
    and the loop reports `WriteZero` — after the prefix that fits was written. -/
theorem writeAllLoop_nil (fuel : Nat) (w : Writer) (m : Mem) (p : VSlice) (hs : w.script = [])
    (hin : InB m p) (hU : m.base + m.bytes.length < U) (hf : p.size < fuel) :
    w.writeAllLoop fuel m p =
      (w.accept ((srcBytes m p).take (w.cap p.size)),
        if w.cap p.size = p.size then .ok () else .err (.ioError IoKind.writeZero)) := by
  have hcall : ∀ (w : Writer) (p : VSlice), w.script = [] → InB m p →
      w.writeRetry m p =
        (w.accept ((srcBytes m p).take (w.cap p.size)), .ok (w.cap p.size)) :=
    fun w p hs hin => by
      rw [Writer.writeRetry_step, if_neg (by rw [hs]; simp [IoLemmas.hd]),
        writeVolatile_nil w m p hs hin]
  have hcl := Writer.cap_le w p.size
  rw [writeAllLoop_eq]
  obtain ⟨fuel, rfl⟩ : ∃ f, fuel = f + 1 := ⟨fuel - 1, by omega⟩
  by_cases hz : p.size = 0
  · have hc0 : w.cap p.size = 0 := Nat.eq_zero_of_le_zero (hz ▸ hcl)
    rw [exactLoop_done hz, hc0, if_pos hz.symm, List.take_zero, Writer.accept_nil]
  · by_cases hc : w.cap p.size = 0
    · rw [exactLoop_zero hz (by rw [hcall w p hs hin, hc]), hc, if_neg (Ne.symm hz)]; rfl
    · rw [exactLoop_more hz (Nat.pos_of_ne_zero hc) (hcall w p hs hin),
        offset_of (hin.lt_U hU hcl).1 hcl]
      simp only []
      obtain ⟨fuel, rfl⟩ : ∃ f, fuel = f + 1 := ⟨fuel - 1, by omega⟩
      by_cases hfull : w.cap p.size = p.size
      · rw [exactLoop_done (Nat.sub_eq_zero_of_le (Nat.le_of_eq hfull.symm)), if_pos hfull]
      · -- the sink was bounded and is now full: the next call returns `Ok(0)`
        obtain ⟨rm, hr, hrm⟩ : ∃ rm, w.room = some rm ∧ w.cap p.size = rm := by
          cases hr : w.room with
          | none => exact absurd (Writer.cap_of_room_none hr _) hfull
          | some rm =>
            rw [Writer.cap_of_room_some hr] at hfull ⊢
            exact ⟨rm, rfl, Nat.min_eq_right (Nat.le_of_not_le fun h => hfull (Nat.min_eq_left h))⟩
        have hl : ((srcBytes m p).take (w.cap p.size)).length = rm := by
          rw [List.length_take_of_le (by rw [srcBytes_length hin]; exact hcl), hrm]
        have hc1 : ∀ n, (w.accept ((srcBytes m p).take (w.cap p.size))).cap n = 0 := fun n => by
          rw [Writer.cap_of_room_some (room_accept_full hr _ hl), Nat.min_zero]
        rw [exactLoop_zero (Nat.sub_ne_zero_of_lt (Nat.lt_of_le_of_ne hcl hfull))
          (by rw [hcall _ _ (by simp [hs]) (hin.window (Nat.le_of_eq (Nat.add_sub_cancel' hcl)) _), hc1]),
          if_neg hfull, List.take_zero, Writer.accept_nil]
        rfl

/-- `write_all_volatile` of a plain sink of ANY kind is one `write_volatile` plus the check that
    it took everything (`&mut [u8]` by its override, the others because a second call gets
    `Ok(0)`) -/
theorem writeAll_eq_write (w : Writer) (m : Mem) (s : VSlice) (hs : w.script = [])
    (hin : InB m s) (hU : w.kind ≠ .mutSlice → m.base + m.bytes.length < U) :
    w.writeAll m s =
      ((w.writeVolatile m s).1,
        if (w.writeVolatile m s).2 = .ok s.size then .ok () else .err (.ioError IoKind.writeZero)) := by
  rw [writeVolatile_nil w m s hs hin]
  simp only [Res.ok.injEq]
  by_cases hk : w.kind = .mutSlice
  · rw [Writer.writeAll_override w m s hk, writeVolatile_nil w m s hs hin]
    simp only []
    split <;> rfl
  · rw [Writer.writeAll_default w m s hk (hin.lt_U (hU hk) (Nat.zero_le _)).1]
    exact writeAllLoop_nil _ w m ⟨s.addr, s.size, _⟩ hs hin (hU hk) (Nat.lt_succ_self _)

/-- storing `src.take amt` at `p` = what `<&mut [u8] as Write>::write` does to `buf[p..]` -/
theorem spliceAt_eq_std (buf src : List UInt8) (p : Nat) :
    spliceAt buf p (src.take (min src.length (buf.length - p))) =
        buf.take p ++ (Std.writeMutSlice (buf.drop p) src).2 ∧
      (Std.writeMutSlice (buf.drop p) src).1 = min src.length (buf.length - p) ∧
      (src.take (min src.length (buf.length - p))).length = min src.length (buf.length - p) := by
  have hl : (src.take (min src.length (buf.length - p))).length = min src.length (buf.length - p) := by
    simp
  refine ⟨?_, by simp [Std.writeMutSlice], hl⟩
  unfold spliceAt Std.writeMutSlice
  simp only [hl, List.length_drop, List.drop_drop, List.append_assoc]

/-- `&mut [u8]`: `write_volatile` stores the same bytes at the front
    of the remaining slice, returns the same count and advances the slice like `Write::write`
    of the ordinary buffer `srcBytes m s`. -/
theorem mutSlice_write_eq_std (w : Writer) (m : Mem) (s : VSlice) (hk : w.kind = .mutSlice)
    (hs : w.script = []) (hin : InB m s) :
    w.writeVolatile m s =
      ({ w with buf := w.buf.take w.pos ++ (Std.writeMutSlice (w.buf.drop w.pos) (srcBytes m s)).2,
                pos := w.pos + (Std.writeMutSlice (w.buf.drop w.pos) (srcBytes m s)).1 },
        .ok (Std.writeMutSlice (w.buf.drop w.pos) (srcBytes m s)).1) := by
  obtain ⟨h1, h2, h3⟩ := spliceAt_eq_std w.buf (srcBytes m s) w.pos
  have hcap : w.cap s.size = min (srcBytes m s).length (w.buf.length - w.pos) := by
    rw [srcBytes_length hin]; unfold Writer.cap Writer.room; rw [hk]
  rw [writeVolatile_nil w m s hs hin, hcap, h2, ← h1]
  unfold Writer.accept
  rw [hk]
  simp only [h3]

/-- the count is `min(s.size, room)` and the bytes handed over are the first that many of the slice -/
theorem mutSlice_write_count (w : Writer) (m : Mem) (s : VSlice) (hin : InB m s) :
    (Std.writeMutSlice (w.buf.drop w.pos) (srcBytes m s)).1 = min s.size (w.buf.length - w.pos) ∧
    (Std.writeMutSlice (w.buf.drop w.pos) (srcBytes m s)).2 =
      (m.bytes.drop (s.addr - m.base)).take (min s.size (w.buf.length - w.pos)) ++
        w.buf.drop (w.pos + min s.size (w.buf.length - w.pos)) := by
  have hl := srcBytes_length hin
  constructor
  · simp only [Std.writeMutSlice, hl, List.length_drop]
  · simp only [Std.writeMutSlice, hl, List.length_drop, List.drop_drop]
    unfold srcBytes
    rw [List.take_take, Nat.min_eq_left (Nat.min_le_left _ _)]

/-- `<&mut [u8]>::write_all`: `Ok` iff everything fits, else
    `WriteZero` after the prefix that fits was written — exactly `std`. -/
theorem mutSlice_writeAll_eq_std (w : Writer) (m : Mem) (s : VSlice) (hk : w.kind = .mutSlice)
    (hs : w.script = []) (hin : InB m s) :
    w.writeAll m s =
      ({ w with buf := w.buf.take w.pos ++ (Std.writeAllMutSlice (w.buf.drop w.pos) (srcBytes m s)).1,
                pos := w.pos + min s.size (w.buf.length - w.pos) },
        (Std.writeAllMutSlice (w.buf.drop w.pos) (srcBytes m s)).2) := by
  rw [writeAll_eq_write w m s hs hin (fun h => absurd hk h), mutSlice_write_eq_std w m s hk hs hin]
  simp only [Res.ok.injEq, Std.writeAllMutSlice, (mutSlice_write_count w m s hin).1,
    srcBytes_length hin]

theorem mutSlice_writeAll_ok_iff (w : Writer) (m : Mem) (s : VSlice) (hk : w.kind = .mutSlice)
    (hs : w.script = []) (hin : InB m s) :
    ((w.writeAll m s).2 = .ok () ↔ s.size ≤ w.buf.length - w.pos) ∧
    (w.buf.length - w.pos < s.size → (w.writeAll m s).2 = .err (.ioError IoKind.writeZero)) := by
  rw [mutSlice_writeAll_eq_std w m s hk hs hin]
  have hc := (mutSlice_write_count w m s hin).1
  have hl := srcBytes_length hin
  simp only [Std.writeAllMutSlice, hl, hc]
  by_cases hfit : min s.size (w.buf.length - w.pos) = s.size
  · have hle : s.size ≤ w.buf.length - w.pos := hfit ▸ Nat.min_le_right _ _
    rw [if_pos hfit]
    exact ⟨⟨fun _ => hle, fun _ => rfl⟩, fun h => absurd hle (Nat.not_le.2 h)⟩
  · rw [if_neg hfit]
    exact ⟨⟨fun h => (by cases h), fun h => absurd (Nat.min_eq_left h) hfit⟩, fun _ => rfl⟩

/-- `Vec<u8>`: all `s.size` bytes are appended, `Ok(s.size)` -/
theorem vec_write_eq_std (w : Writer) (m : Mem) (s : VSlice) (hk : w.kind = .vec)
    (hs : w.script = []) (hin : InB m s) :
    w.writeVolatile m s =
      ({ w with buf := (Std.writeVec w.buf (srcBytes m s)).1 },
        .ok (Std.writeVec w.buf (srcBytes m s)).2) ∧
    (Std.writeVec w.buf (srcBytes m s)).2 = s.size := by
  have hroom : w.room = none := (Writer.room_none_iff w).2 (.inl hk)
  have hl := srcBytes_length hin
  rw [writeVolatile_nil w m s hs hin, Writer.cap_of_room_none hroom,
    Writer.accept_of_room_none hroom]
  simp only [Std.writeVec, hl]
  rw [← hl, List.take_length]
  exact ⟨rfl, trivial⟩

/-- `write_all_volatile` into a `Vec<u8>` (default loop) always succeeds and appends all
    `s.size` bytes — `Write::write_all` for `Vec`. -/
theorem vec_writeAll (w : Writer) (m : Mem) (s : VSlice) (hk : w.kind = .vec)
    (hs : w.script = []) (hin : InB m s) (hU : m.base + m.bytes.length < U) :
    w.writeAll m s = ({ w with buf := (Std.writeVec w.buf (srcBytes m s)).1 }, .ok ()) := by
  rw [writeAll_eq_write w m s hs hin (fun _ => hU), (vec_write_eq_std w m s hk hs hin).1,
    (vec_write_eq_std w m s hk hs hin).2, if_pos rfl]

theorem cursor_write_eq_std (w : Writer) (m : Mem) (s : VSlice) (hk : w.kind = .cursor)
    (hs : w.script = []) (hin : InB m s) :
    w.writeVolatile m s =
      ({ w with buf := (Std.cursorWrite w.buf w.pos (srcBytes m s)).2.1,
                pos := (Std.cursorWrite w.buf w.pos (srcBytes m s)).2.2 },
        .ok (Std.cursorWrite w.buf w.pos (srcBytes m s)).1) := by
  obtain ⟨h1, h2, h3⟩ := spliceAt_eq_std w.buf (srcBytes m s) (min w.pos w.buf.length)
  have hcap : w.cap s.size =
      min (srcBytes m s).length (w.buf.length - min w.pos w.buf.length) := by
    rw [srcBytes_length hin]; unfold Writer.cap Writer.room; rw [hk]
  rw [writeVolatile_nil w m s hs hin, hcap]
  unfold Writer.accept Std.cursorWrite
  rw [hk]
  simp only [h3, h1, h2]

/-- `write_all_volatile` into a `Cursor<&mut [u8]>` (default loop): `Ok` iff there is
    enough room after the position, else `WriteZero` after the prefix that fits was written;
    the buffer and position are those of `std`'s `Cursor::write` of the whole slice. -/
theorem cursor_writeAll (w : Writer) (m : Mem) (s : VSlice) (hk : w.kind = .cursor)
    (hs : w.script = []) (hin : InB m s) (hU : m.base + m.bytes.length < U) :
    w.writeAll m s =
      ({ w with buf := (Std.cursorWrite w.buf w.pos (srcBytes m s)).2.1,
                pos := (Std.cursorWrite w.buf w.pos (srcBytes m s)).2.2 },
        if s.size ≤ w.buf.length - min w.pos w.buf.length then .ok ()
        else .err (.ioError IoKind.writeZero)) := by
  rw [writeAll_eq_write w m s hs hin (fun _ => hU), cursor_write_eq_std w m s hk hs hin]
  simp only [Res.ok.injEq, Std.cursorWrite, Std.writeMutSlice, srcBytes_length hin, List.length_drop]
  by_cases hfit : s.size ≤ w.buf.length - min w.pos w.buf.length
  · rw [if_pos hfit, if_pos (Nat.min_eq_left hfit)]
  · rw [if_neg hfit, if_neg (by omega)]

/-! ### 4. sequences of calls -/

namespace Std
/-- consecutive `Read::read` calls on one `&[u8]` into buffers of the given lengths:
    `(concatenation of the bytes delivered, remaining slice)` -/
def readMany (data : List UInt8) : List Nat → List UInt8 × List UInt8
  | [] => ([], data)
  | n :: ns =>
    let (_, moved, rest) := readSlice data n
    let (mv, fin) := readMany rest ns
    (moved ++ mv, fin)

/-- consecutive `Write::write` calls on one `Vec<u8>`: `(vector afterwards, total count)` -/
def writeVecMany (v : List UInt8) : List (List UInt8) → List UInt8 × Nat
  | [] => (v, 0)
  | src :: srcs =>
    let (v', n) := writeVec v src
    let (v'', t) := writeVecMany v' srcs
    (v'', n + t)

/-- std side: what a sequence of reads delivers is a prefix of the stream, in order, and what
    remains is the rest — nothing lost, nothing duplicated -/
theorem readMany_prefix (data : List UInt8) (ns : List Nat) :
    (readMany data ns).1 = data.take (min ns.sum data.length) ∧
    (readMany data ns).2 = data.drop (min ns.sum data.length) := by
  induction ns generalizing data with
  | nil => simp [readMany]
  | cons n ns ih =>
    obtain ⟨h1, h2⟩ := ih (data.drop (min n data.length))
    simp only [readMany, readSlice, h1, h2, List.sum_cons, List.length_drop, List.drop_drop]
    have e : min n data.length + min ns.sum (data.length - min n data.length) =
        min (n + ns.sum) data.length := by
      by_cases hn : n ≤ data.length
      · rw [Nat.min_eq_left hn, ← Nat.add_min_add_left, Nat.add_sub_cancel' hn]
      · have hl := Nat.le_of_not_le hn
        rw [Nat.min_eq_right hl, Nat.sub_self, Nat.min_zero, Nat.add_zero,
          Nat.min_eq_right (Nat.le_trans hl (Nat.le_add_right _ _))]
    rw [← List.take_add, e]
    refine ⟨rfl, ?_⟩
    congr 1

theorem writeVecMany_eq (v : List UInt8) (srcs : List (List UInt8)) :
    writeVecMany v srcs = (v ++ srcs.flatten, (srcs.map List.length).sum) := by
  induction srcs generalizing v with
  | nil => simp [writeVecMany]
  | cons s ss ih => simp [writeVecMany, writeVec, ih]
end Std

/-- consecutive `read_volatile` calls of one reader into the given slices.  The bytes a call
    stored are read back right after the call (the slices may overlap) and concatenated. -/
def readSeq (r : Reader) (m : Mem) : List VSlice → Mem × Reader × List UInt8
  | [] => (m, r, [])
  | s :: ss =>
    match r.readVolatile m s with
    | (m', r', .ok n) =>
      let out := readSeq r' m' ss
      (out.1, out.2.1, (m'.bytes.drop (s.addr - m.base)).take n ++ out.2.2)
    | (m', r', _) => (m', r', [])

/-- consecutive `write_volatile` calls of one writer from the given slices: total count, or the
    first failure -/
def writeSeq (w : Writer) (m : Mem) : List VSlice → Writer × Res Nat
  | [] => (w, .ok 0)
  | s :: ss =>
    match w.writeVolatile m s with
    | (w', .ok n) =>
      match writeSeq w' m ss with
      | (w'', .ok t) => (w'', .ok (n + t))
      | out => out
    | out => out

/-- Readers: consecutive `read_volatile` calls on one `&[u8]` deliver
    exactly what consecutive `Read::read` calls into ordinary buffers of the same lengths
    deliver, and leave the same remaining stream. -/
theorem sequence_eq_std (r : Reader) (m : Mem) (ss : List VSlice) (hk : r.kind = .slice)
    (hs : r.script = []) (hbm : BmInv m) (hin : ∀ s ∈ ss, InB m s) :
    (readSeq r m ss).2.2 = (Std.readMany r.data (ss.map VSlice.size)).1 ∧
    (readSeq r m ss).2.1 = { r with data := (Std.readMany r.data (ss.map VSlice.size)).2 } ∧
    (readSeq r m ss).1.base = m.base ∧
    (readSeq r m ss).1.bytes.length = m.bytes.length := by
  induction ss generalizing r m with
  | nil => exact ⟨rfl, rfl, rfl, rfl⟩
  | cons s ss ih =>
    have hins : InB m s := hin s (by simp)
    obtain ⟨m', h, hmv⟩ := readVolatile_nil r m s hs hbm hins
    have ho := hins.fits (Nat.min_le_left s.size r.avail.length)
    have hst := hmv.stored (Nat.le_trans (Nat.le_add_right _ _) ho)
    have hlen := hmv.length ho
    rw [Reader.avail_slice hk] at h hst
    rw [Reader.advance_slice hk] at h
    obtain ⟨i1, i2, i3, i4⟩ := ih { r with data := r.data.drop (min s.size r.data.length) } m'
      hk hs hmv.bm (fun s' hs' => DataLemmas.Win.congr hmv.base hlen (hin s' (by simp [hs'])))
    simp only [readSeq, h, List.map_cons, Std.readMany, Std.readSlice, hst]
    exact ⟨by rw [i1], by rw [i2], by rw [i3, hmv.base], by rw [i4, hlen]⟩

/-- Stated directly: the bytes delivered are a prefix of the original data, in order, and
    the remaining data is the rest. -/
theorem sequence_prefix (r : Reader) (m : Mem) (ss : List VSlice) (hk : r.kind = .slice)
    (hs : r.script = []) (hbm : BmInv m) (hin : ∀ s ∈ ss, InB m s) :
    ∃ k, k = min (ss.map VSlice.size).sum r.data.length ∧
      (readSeq r m ss).2.2 = r.data.take k ∧ (readSeq r m ss).2.1.data = r.data.drop k := by
  obtain ⟨h1, h2, _, _⟩ := sequence_eq_std r m ss hk hs hbm hin
  obtain ⟨p1, p2⟩ := Std.readMany_prefix r.data (ss.map VSlice.size)
  exact ⟨_, rfl, by rw [h1, p1], by rw [h2]; exact p2⟩

/-- Writers: consecutive `write_volatile` calls into one `Vec<u8>`
    append exactly what consecutive `Write::write` calls of the ordinary buffers append. -/
theorem sequence_eq_std_vec (w : Writer) (m : Mem) (ss : List VSlice) (hk : w.kind = .vec)
    (hs : w.script = []) (hin : ∀ s ∈ ss, InB m s) :
    writeSeq w m ss =
      ({ w with buf := (Std.writeVecMany w.buf (ss.map (srcBytes m))).1 },
        .ok (Std.writeVecMany w.buf (ss.map (srcBytes m))).2) := by
  induction ss generalizing w with
  | nil => rfl
  | cons s ss ih =>
    have hins : InB m s := hin s (by simp)
    obtain ⟨h, _⟩ := vec_write_eq_std w m s hk hs hins
    have := ih { w with buf := (Std.writeVec w.buf (srcBytes m s)).1 } hk hs
      (fun s' hs' => hin s' (by simp [hs']))
    simp only [writeSeq, h, this, List.map_cons, Std.writeVecMany]

/-- … i.e. the sink grows by the concatenation of the slices' bytes, in order -/
theorem sequence_vec_appends (w : Writer) (m : Mem) (ss : List VSlice) (hk : w.kind = .vec)
    (hs : w.script = []) (hin : ∀ s ∈ ss, InB m s) :
    (writeSeq w m ss).1.buf = w.buf ++ (ss.map (srcBytes m)).flatten ∧
    (writeSeq w m ss).2 = .ok (ss.map VSlice.size).sum := by
  rw [sequence_eq_std_vec w m ss hk hs hin, Std.writeVecMany_eq]
  refine ⟨rfl, ?_⟩
  simp only [List.map_map]
  congr 2
  apply List.map_congr_left
  intro s hs'
  exact srcBytes_length (hin s hs')

/-! ### 5. never beyond the buffer -/

/-- For every reader kind (raw descriptors included), every script
    and every container — no hypothesis at all — one `read_volatile` call changes no byte of
    the container outside `[o, o + s.size)`, and neither its base nor its length. -/
theorem never_beyond_buffer (r : Reader) (m : Mem) (s : VSlice) :
    (r.readVolatile m s).1.base = m.base ∧
    (r.readVolatile m s).1.bytes.length = m.bytes.length ∧
    ∀ i, i < s.addr - m.base ∨ s.addr - m.base + s.size ≤ i →
      (r.readVolatile m s).1.bytes[i]? = m.bytes[i]? := by
  rw [Reader.readVolatile_eq_xfer]
  cases hx : xfer (hd r.script) s.size r.avail.length with
  | some n =>
    simp only [Reader.rvCopy]
    cases hc : copyToVolatileSlice m s r.next.avail n with
    | ok mk =>
      obtain ⟨h1, h2, h3⟩ := DataLemmas.copyToVolatileSlice_frame (m' := mk.1) (k := mk.2) hc
      exact ⟨h1, h2, fun i hi =>
        h3 i (hi.imp_right (Nat.le_trans (Nat.add_le_add_left (xfer_le hx).1 _)))⟩
    | err e => exact ⟨rfl, rfl, fun _ _ => rfl⟩
    | panic => exact ⟨rfl, rfl, fun _ _ => rfl⟩
  | none =>
    rcases Reader.rvFail_cases r.next m s (errKind (hd r.script)) with
      ⟨m', h, hb, hbase, _⟩ | ⟨h, _⟩ <;> rw [h]
    · exact ⟨hbase, by rw [hb], fun _ _ => by rw [hb]⟩
    · exact ⟨rfl, rfl, fun _ _ => rfl⟩

/-! ### non-vacuity -/

def exMem : Mem := { base := 0x2000, bytes := [10, 11, 12, 13, 14, 15, 16, 17], bm := none }
def exWin : VSlice := { addr := 0x2002, size := 4, bmBase := 2 }

theorem exMem_ok : BmInv exMem ∧ InB exMem exWin ∧ exMem.base + exMem.bytes.length < U :=
  ⟨DataLemmas.BmInv_none _ rfl, by unfold InB; decide, by decide⟩

/-- `&[u8]` of 3 bytes into a 4-byte slice: 3 bytes moved, stream empty -/
example : ({ kind := .slice, data := [1, 2, 3], pos := 0, script := [] } : Reader).readVolatile
    exMem exWin =
    ({ exMem with bytes := [10, 11, 1, 2, 3, 15, 16, 17] },
     { kind := .slice, data := [], pos := 0, script := [] }, .ok 3) := by decide +kernel

/-- `read_exact` of 4 bytes from a 3-byte `&[u8]`: `UnexpectedEof`, nothing changes -/
example : ({ kind := .slice, data := [1, 2, 3], pos := 0, script := [] } : Reader).readExact
    exMem exWin =
    (exMem, { kind := .slice, data := [1, 2, 3], pos := 0, script := [] },
     .err (.ioError IoKind.unexpectedEof)) := by decide +kernel

/-- `Cursor` at position 9 of a 3-byte buffer: `Ok(0)` -/
example : ({ kind := .cursor, data := [1, 2, 3], pos := 9, script := [] } : Reader).readVolatile
    exMem exWin =
    (exMem, { kind := .cursor, data := [1, 2, 3], pos := 9, script := [] }, .ok 0) := by
  decide +kernel

/-- `write_all` of a 4-byte slice into a `&mut [u8]` with 3 bytes left: the prefix is written,
    `WriteZero` -/
example : ({ kind := .mutSlice, buf := [0, 0, 0, 0, 0], pos := 2, script := [] } : Writer).writeAll
    exMem exWin =
    ({ kind := .mutSlice, buf := [0, 0, 12, 13, 14], pos := 5, script := [] },
     .err (.ioError IoKind.writeZero)) := by decide +kernel

/-- `write_all` into a `Cursor<&mut [u8]>` (default loop) without enough room -/
example : ({ kind := .cursor, buf := [0, 0, 0, 0, 0], pos := 3, script := [] } : Writer).writeAll
    exMem exWin =
    ({ kind := .cursor, buf := [0, 0, 0, 12, 13], pos := 5, script := [] },
     .err (.ioError IoKind.writeZero)) := by decide +kernel

/-- `write_all` into a `Vec<u8>` -/
example : ({ kind := .vec, buf := [7], pos := 0, script := [] } : Writer).writeAll exMem exWin =
    ({ kind := .vec, buf := [7, 12, 13, 14, 15], pos := 0, script := [] }, .ok ()) := by
  decide +kernel

#print axioms slice_read_eq_std
#print axioms slice_readExact_eq_std
#print axioms slice_readExact_ok_iff
#print axioms cursor_read_eq_std
#print axioms cursor_read_past_end
#print axioms cursor_readExact_eq_std
#print axioms cursor_readExact_past_end
#print axioms cursor_readExact_ok_iff
#print axioms mutSlice_write_eq_std
#print axioms mutSlice_write_count
#print axioms mutSlice_writeAll_eq_std
#print axioms mutSlice_writeAll_ok_iff
#print axioms vec_write_eq_std
#print axioms vec_writeAll
#print axioms cursor_write_eq_std
#print axioms cursor_writeAll
#print axioms writeAllLoop_nil
#print axioms Std.readMany_prefix
#print axioms Std.writeVecMany_eq
#print axioms sequence_eq_std
#print axioms sequence_prefix
#print axioms sequence_eq_std_vec
#print axioms sequence_vec_appends
#print axioms never_beyond_buffer
#print axioms exMem_ok

end VmMem.C13
