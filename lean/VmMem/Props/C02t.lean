/-
  VmMem.Props.C02t — address resolution over a layout in which a region may end exactly at 2^64 (`WFT`): what a
  third-party `GuestMemoryRegion` can be, though no constructor of the crate builds it.  `find_region`, the provided
  methods of `GuestMemory` built on it (`to_region_addr`, `address_in_range`, `check_address`, `checked_offset`,
  `last_addr`, `get_host_address`, `check_range`), `num_regions` / iteration order.  Props/C02 carries these to the
  layouts the crate builds (`WF`) and adds `get_slice`.

  The statements hold for every `a : Nat`; the bound `a < U` (`base < U`, `off < U`) the property text quantifies over is
  not needed by any proof, so it is not assumed; only the three `check_range` theorems bound a number (`len < U`).  A mapped address is `< U`
  automatically (`WFT.mapped_lt_U`).  The proofs differ from what `WF` alone would need only where the `try_access` walk
  reaches the last address, which after fix dfb8366 ends the walk (`LoopLemmas.next_ok`).
-/
import VmMem.Lemmas.LoopLemmas
namespace VmMem
namespace C02t
open GuestLemmas

/-! ### find_region -/

theorem region_unique {m : GMem} (h : WFT m) {a i j : Nat} {r s : Region}
    (hi : m[i]? = some r) (hj : m[j]? = some s)
    (hr : r.start ≤ a ∧ a < r.start + r.len) (hs : s.start ≤ a ∧ a < s.start + s.len) :
    i = j := GuestLemmas.region_unique h hi hj hr hs

/-- `find_region` never panics or errs; it resolves to the one region containing the
    address and to nothing in a hole or beyond the ends. -/
theorem findRegion_spec (m : GMem) (h : WFT m) (a : Nat) :
    ∃ o, m.findRegion a = .ok o ∧
      (∀ i, o = some i ↔ ∃ r, m[i]? = some r ∧ r.start ≤ a ∧ a < r.start + r.len) := by
  rcases findRegion_cases h a with ⟨i, r, hf, hi, hin⟩ | ⟨hf, hn⟩
  · refine ⟨some i, hf, fun j => ⟨fun hj => ?_, ?_⟩⟩
    · cases hj; exact ⟨r, hi, hin⟩
    · rintro ⟨s, hs, hsin⟩
      exact Res.ok.inj (hf.symm.trans (findRegion_of_getElem? h hs hsin))
  · refine ⟨none, hf, fun j => ⟨nofun, ?_⟩⟩
    rintro ⟨s, hs, hsin⟩
    exact absurd (mapped_of_getElem? hs hsin) hn

theorem findRegion_some_iff (m : GMem) (h : WFT m) (a i : Nat) :
    m.findRegion a = .ok (some i) ↔ ∃ r, m[i]? = some r ∧ r.start ≤ a ∧ a < r.start + r.len := by
  obtain ⟨o, ho, hiff⟩ := findRegion_spec m h a
  rw [ho, ← hiff i, Res.ok.injEq]

theorem findRegion_none_iff (m : GMem) (h : WFT m) (a : Nat) :
    m.findRegion a = .ok none ↔ ¬ mapped m a := by
  rcases mapped_or_not m a with ⟨i, r, hi, hin⟩ | hn
  · rw [findRegion_of_getElem? h hi hin]
    simp [mapped_of_getElem? hi hin]
  · simp [findRegion_of_unmapped h hn, hn]

theorem findRegion_no_panic (m : GMem) (h : WFT m) (a : Nat) :
    m.findRegion a ≠ .panic ∧ ∀ e, m.findRegion a ≠ .err e := by
  obtain ⟨o, ho, _⟩ := findRegion_spec m h a
  rw [ho]; simp

/-! ### the defaults built on find_region -/

/-- `to_region_addr`: `(i, a - r.start)` exactly for the containing region (the inner
    `unwrap` never panics), `None` iff unmapped. -/
theorem toRegionAddr_spec (m : GMem) (h : WFT m) (a : Nat) :
    (∀ i ra, m.toRegionAddr a = .ok (some (i, ra)) ↔
        ∃ r, m[i]? = some r ∧ r.start ≤ a ∧ a < r.start + r.len ∧ ra = a - r.start) ∧
    (m.toRegionAddr a = .ok none ↔ ¬ mapped m a) ∧
    (∃ o, m.toRegionAddr a = .ok o) := by
  rcases mapped_or_not m a with ⟨i, r, hi, hin⟩ | hn
  · have hm := mapped_of_getElem? hi hin
    rw [toRegionAddr_of_getElem? h hi hin]
    refine ⟨?_, by simp [hm], ⟨_, rfl⟩⟩
    intro j ra
    constructor
    · intro e
      cases e
      exact ⟨r, hi, hin.1, hin.2, rfl⟩
    · rintro ⟨s, hs, hs1, hs2, rfl⟩
      exact (toRegionAddr_of_getElem? h hi hin).symm.trans (toRegionAddr_of_getElem? h hs ⟨hs1, hs2⟩)
  · rw [toRegionAddr_of_unmapped h hn]
    refine ⟨fun j ra => ⟨nofun, ?_⟩, by simp [hn], ⟨_, rfl⟩⟩
    rintro ⟨s, hs, hs1, hs2, _⟩
    exact absurd (mapped_of_getElem? hs ⟨hs1, hs2⟩) hn

theorem addressInRange_spec (m : GMem) (h : WFT m) (a : Nat) :
    m.addressInRange a = .ok (decide (mapped m a)) := by
  unfold GMem.addressInRange
  rcases mapped_or_not m a with ⟨i, r, hi, hin⟩ | hn
  · simp [findRegion_of_getElem? h hi hin, mapped_of_getElem? hi hin]
  · simp [findRegion_of_unmapped h hn, hn]

theorem addressInRange_iff (m : GMem) (h : WFT m) (a : Nat) :
    m.addressInRange a = .ok true ↔ mapped m a := by
  rw [addressInRange_spec m h a]; simp

theorem checkAddress_spec (m : GMem) (h : WFT m) (a : Nat) :
    m.checkAddress a = .ok (if mapped m a then some a else none) := by
  unfold GMem.checkAddress
  rcases mapped_or_not m a with ⟨i, r, hi, hin⟩ | hn
  · simp [findRegion_of_getElem? h hi hin, mapped_of_getElem? hi hin]
  · simp [findRegion_of_unmapped h hn, hn]

theorem checkAddress_iff (m : GMem) (h : WFT m) (a x : Nat) :
    m.checkAddress a = .ok (some x) ↔ x = a ∧ mapped m a := by
  rw [checkAddress_spec m h a]
  by_cases hm : mapped m a <;> simp [hm, eq_comm]

/-- `checked_offset`: never panics; `Some(base + off)` iff the sum does not overflow and is mapped -/
theorem checkedOffset_eq (m : GMem) (h : WFT m) (base off : Nat) :
    m.checkedOffset base off =
      .ok (if base + off < U ∧ mapped m (base + off) then some (base + off) else none) := by
  unfold GMem.checkedOffset checkedAdd
  by_cases hlt : base + off < U
  · simp only [hlt, if_true, true_and]
    exact checkAddress_spec m h (base + off)
  · simp [hlt]

theorem checkedOffset_spec (m : GMem) (h : WFT m) (base off x : Nat) :
    m.checkedOffset base off = .ok (some x) ↔
      x = base + off ∧ base + off < U ∧ mapped m (base + off) := by
  rw [checkedOffset_eq m h]
  by_cases hc : base + off < U ∧ mapped m (base + off)
  · simp [hc, eq_comm]
  · rw [if_neg hc]
    exact ⟨nofun, fun h => absurd h.2 hc⟩

theorem checkedOffset_none (m : GMem) (h : WFT m) (base off : Nat) :
    m.checkedOffset base off = .ok none ↔ ¬ (base + off < U ∧ mapped m (base + off)) := by
  rw [checkedOffset_eq m h]
  by_cases hc : base + off < U ∧ mapped m (base + off) <;> simp [hc]

/-! ### last_addr -/

theorem lastAddr_nil : GMem.lastAddr [] = .ok 0 := rfl

/-- the regions' own requirement, without any order -/
def RegionsOk (m : GMem) : Prop := ∀ r ∈ m, 0 < r.len ∧ r.start + r.len ≤ U

theorem lastAddr_fold (m : GMem) (h : RegionsOk m) (acc : Nat) :
    m.foldlM (fun acc r => do let la ← r.lastAddr; pure (max acc la)) acc =
      Res.ok (m.foldl (fun acc r => max acc (r.start + r.len - 1)) acc) := by
  induction m generalizing acc with
  | nil => rfl
  | cons r rest ih =>
    have hr := h r List.mem_cons_self
    rw [List.foldlM_cons, Region.lastAddr_eq hr]
    exact ih (fun x hx => h x (List.mem_cons_of_mem _ hx)) _

theorem foldl_max_le_iff {α : Type} (f : α → Nat) (l : List α) (acc c : Nat) :
    l.foldl (fun acc x => max acc (f x)) acc ≤ c ↔ acc ≤ c ∧ ∀ x ∈ l, f x ≤ c := by
  induction l generalizing acc with
  | nil => simp
  | cons x xs ih => simp [ih, Nat.max_le, and_assoc]

theorem le_getLast {m : GMem} (h : WFT m) (hne : m ≠ []) :
    ∀ x ∈ m, x.start + x.len ≤ (m.getLast hne).start + (m.getLast hne).len := by
  obtain ⟨l, y, rfl⟩ : ∃ l y, m = l ++ [y] := ⟨_, _, (List.dropLast_concat_getLast hne).symm⟩
  rw [List.getLast_concat]
  intro x hx
  rcases List.mem_append.1 hx with hx | hx
  · exact Nat.le_trans ((List.pairwise_append.1 h.2).2.2 x hx y (List.mem_singleton_self y)) (Nat.le_add_right _ _)
  · rw [List.mem_singleton.1 hx]
    exact Nat.le_refl _

/-- `last_addr` of a non-empty layout is the last byte of the last region, which is mapped
    and is the greatest mapped address. -/
theorem lastAddr_spec (m : GMem) (h : WFT m) (hne : m ≠ []) :
    m.lastAddr = .ok ((m.getLast hne).start + (m.getLast hne).len - 1) ∧
    mapped m ((m.getLast hne).start + (m.getLast hne).len - 1) ∧
    ∀ a, mapped m a → a ≤ (m.getLast hne).start + (m.getLast hne).len - 1 := by
  have hl := (h.mem (List.getLast_mem hne)).1
  have hle := le_getLast h hne
  refine ⟨?_, ⟨_, List.getLast_mem hne, Nat.le_sub_one_of_lt (Nat.lt_add_of_pos_right hl),
    Nat.sub_lt (Nat.add_pos_right _ hl) Nat.one_pos⟩, ?_⟩
  · -- the fold of `max` is the least upper bound of the regions' last addresses
    unfold GMem.lastAddr
    rw [lastAddr_fold m h.1]
    congr 1
    apply Nat.le_antisymm
    · exact (foldl_max_le_iff _ m 0 _).2 ⟨Nat.zero_le _, fun x hx => Nat.sub_le_sub_right (hle x hx) 1⟩
    · exact ((foldl_max_le_iff (fun r : Region => r.start + r.len - 1) m 0 _).1 (Nat.le_refl _)).2 _
        (List.getLast_mem hne)
  · rintro a ⟨x, hx, _, hx2⟩
    exact Nat.le_sub_one_of_lt (Nat.lt_of_lt_of_le hx2 (hle x hx))

theorem lastAddr_no_panic (m : GMem) (h : WFT m) : ∃ a, m.lastAddr = .ok a :=
  ⟨_, lastAddr_fold m h.1 0⟩

/-- **`last_addr` does not depend on the order in which an implementation iterates its regions**: for any
    permutation of the regions (a `GuestMemory` implementation that keeps them in plug order, say) the default
    method returns the same value — for a well-formed set, the greatest mapped address. -/
theorem lastAddr_order_independent (m m' : GMem) (hp : m'.Perm m) (h : RegionsOk m) :
    GMem.lastAddr m' = GMem.lastAddr m := by
  have h' : RegionsOk m' := fun r hr => h r (hp.mem_iff.1 hr)
  unfold GMem.lastAddr
  rw [lastAddr_fold m h, lastAddr_fold m' h']
  congr 1
  exact List.Perm.foldl_eq' hp (fun x _ y _ z => Nat.max_right_comm ..) 0

theorem lastAddr_perm_greatest (m m' : GMem) (hp : m'.Perm m) (h : WFT m) (hne : m ≠ []) :
    ∃ a, GMem.lastAddr m' = .ok a ∧ mapped m a ∧ ∀ b, mapped m b → b ≤ a := by
  rw [lastAddr_order_independent m m' hp h.1]
  exact ⟨_, lastAddr_spec m h hne⟩

/-! ### get_host_address -/

theorem getHostAddress_of_getElem? {m : GMem} (h : WFT m) {a i : Nat} {r : Region}
    (hi : m[i]? = some r) (hin : r.start ≤ a ∧ a < r.start + r.len) :
    m.getHostAddress a = .ok (r.mem.base + (a - r.start)) := by
  unfold GMem.getHostAddress
  rw [toRegionAddr_of_getElem? h hi hin]
  have := Nat.sub_lt_left_of_lt_add hin.1 hin.2
  simp [hi, Region.getHostAddress, Region.checkAddress, Region.addressInRange, this]

theorem getHostAddress_of_unmapped {m : GMem} (h : WFT m) {a : Nat} (hn : ¬ mapped m a) :
    m.getHostAddress a = .err (.invalidGuestAddress a) := by
  unfold GMem.getHostAddress
  rw [toRegionAddr_of_unmapped h hn]
  simp

theorem getHostAddress_spec (m : GMem) (h : WFT m) (a : Nat) :
    (∀ p, m.getHostAddress a = .ok p ↔
        ∃ (i : Nat) (r : Region), m[i]? = some r ∧ r.start ≤ a ∧ a < r.start + r.len ∧ p = r.mem.base + (a - r.start)) ∧
    (m.getHostAddress a = .err (.invalidGuestAddress a) ↔ ¬ mapped m a) ∧
    m.getHostAddress a ≠ .panic := by
  rcases mapped_or_not m a with ⟨i, r, hi, hin⟩ | hn
  · have hm := mapped_of_getElem? hi hin
    rw [getHostAddress_of_getElem? h hi hin]
    refine ⟨?_, by simp [hm], by simp⟩
    intro p
    constructor
    · intro e; cases e; exact ⟨i, r, hi, hin.1, hin.2, rfl⟩
    · rintro ⟨j, s, hs, hs1, hs2, rfl⟩
      exact (getHostAddress_of_getElem? h hi hin).symm.trans (getHostAddress_of_getElem? h hs ⟨hs1, hs2⟩)
  · rw [getHostAddress_of_unmapped h hn]
    refine ⟨fun p => ⟨nofun, ?_⟩, by simp [hn], by simp⟩
    rintro ⟨j, s, hs, hs1, hs2, _⟩
    exact absurd (mapped_of_getElem? hs ⟨hs1, hs2⟩) hn

/-! (no `get_slice`: a third-party region's is its own; Props/C02 has the crate's) -/

/-! ### check_range -/

/-- `check_range` is true exactly when every byte of the range is mapped (in particular below `2^64`), an empty
    range included -/
theorem checkRange_all (m : GMem) (h : WFT m) (base len : Nat) (hl : len < U) :
    m.checkRange base len = .ok true ↔ ∀ i, i < len → base + i < U ∧ mapped m (base + i) := by
  rw [LoopLemmas.checkRange_eq_runLen h base hl, Res.ok.injEq, beq_iff_eq, FlatLemmas.runLen_full_iff]
  exact ⟨fun hall i hi => ⟨h.mapped_lt_U (hall i hi), hall i hi⟩, fun hall i hi => (hall i hi).2⟩

/-- the same, and that it never panics.  (`hpos` is not needed.) -/
theorem checkRange_spec (m : GMem) (h : WFT m) (base len : Nat) (hl : len < U) (hpos : 0 < len) :
    (m.checkRange base len = .ok true ↔ ∀ i, i < len → base + i < U ∧ mapped m (base + i)) ∧
    (∃ b, m.checkRange base len = .ok b) :=
  ⟨checkRange_all m h base len hl, _, LoopLemmas.checkRange_eq_runLen h base hl⟩

/-- the same as one equation (the bounded quantifier is decidable) -/
theorem checkRange_eq_decide (m : GMem) (h : WFT m) (base len : Nat) (hl : len < U) (hpos : 0 < len) :
    m.checkRange base len = .ok (decide (∀ i, i < len → base + i < U ∧ mapped m (base + i))) := by
  obtain ⟨hiff, b, hb⟩ := checkRange_spec m h base len hl hpos
  rw [hb] at hiff ⊢
  rw [Res.ok.injEq] at hiff
  exact congrArg Res.ok (Bool.eq_iff_iff.2 (hiff.trans (decide_eq_true_iff).symm))

/-- an empty range has no unmapped byte: `check_range(base, 0)` is `true` for every `base`
    (full-strength reading of the statement).  This holds since the `fix:` commit
    "zero-length guest memory accesses succeed at any address": before it `try_access`
    with `count = 0` still resolved `base` and the answer was `mapped m base` (defect D4). -/
theorem checkRange_zero (m : GMem) (base : Nat) : m.checkRange base 0 = .ok true :=
  checkRange_zero_eq m base

/-! ### num_regions and iteration order -/

theorem numRegions_eq (m : GMem) : m.numRegions = m.length := rfl

/-- `iter()` is the list itself: regions come in strictly increasing start order -/
theorem iter_sorted (m : GMem) (h : WFT m) : m.Pairwise (fun r s => r.start < s.start) := h.starts_lt

theorem iter_sorted_idx (m : GMem) (h : WFT m) {i j : Nat} {r s : Region}
    (hi : m[i]? = some r) (hj : m[j]? = some s) (hij : i < j) : r.start < s.start :=
  Nat.lt_of_lt_of_le (Nat.lt_add_of_pos_right (h.getElem? hi).1) (h.lt hi hj hij)

/-! ### non-vacuity: a concrete three-region layout -/

def mem (base n : Nat) : Mem := { base := base, bytes := List.replicate n 0, bm := none }

/-- regions `[0,5)`, `[5,8)` (adjacent) and `[U-16, U)`: the last one ends exactly at 2^64 -/
def ex : GMem :=
  [ { start := 0, mem := mem 0x1000 5, id := 1 },
    { start := 5, mem := mem 0x2000 3, id := 2 },
    { start := 0xFFFF_FFFF_FFFF_FFF0, mem := mem 0x3000 16, id := 3 } ]

theorem ex_WF : WFT ex := by decide

example : ex.findRegion 0 = .ok (some 0) := by decide
example : ex.findRegion 4 = .ok (some 0) := by decide
example : ex.findRegion 5 = .ok (some 1) := by decide
example : ex.findRegion 7 = .ok (some 1) := by decide
example : ex.findRegion 8 = .ok none := by decide
example : ex.findRegion 0xFFFF_FFFF_FFFF_FFEF = .ok none := by decide
example : ex.findRegion 0xFFFF_FFFF_FFFF_FFFE = .ok (some 2) := by decide
example : ex.findRegion 0xFFFF_FFFF_FFFF_FFFF = .ok (some 2) := by decide
example : ex.toRegionAddr 6 = .ok (some (1, 1)) := by decide
example : ex.lastAddr = .ok 0xFFFF_FFFF_FFFF_FFFF := by decide
example : ex.getHostAddress 6 = .ok 0x2001 := by decide
example : ex.getHostAddress 8 = .err (.invalidGuestAddress 8) := by decide
example : ex.checkedOffset 0xFFFF_FFFF_FFFF_FFF0 0x10 = .ok none := by decide
example : ex.checkedOffset 2 4 = .ok (some 6) := by decide

/-- a two-region range evaluated directly on the model (two iterations of the loop) -/
example : ex.checkRange 3 5 = .ok true := by decide +kernel
/- the loop is defined by well-founded recursion, which the kernel unfolds and plain `decide` does not; the same
   query, and the one at the last address, through `checkRange_eq_decide` -/
example : ex.checkRange 3 5 = .ok true :=
  (checkRange_eq_decide ex ex_WF 3 5 (by decide) (by decide)).trans (by decide)
example : ex.checkRange 3 6 = .ok false := by decide +kernel
example : ¬ WF ex := by decide
example : ex.checkRange 0xFFFF_FFFF_FFFF_FFF0 16 = .ok true := by decide +kernel
example : ex.checkRange 0xFFFF_FFFF_FFFF_FFFF 1 = .ok true := by decide +kernel
/-- a range that runs past the last address is not valid, even though address 0 is mapped -/
example : ex.checkRange 0xFFFF_FFFF_FFFF_FFFF 2 = .ok false :=
  (checkRange_eq_decide ex ex_WF _ 2 (by decide) (by decide)).trans (by decide)
example : ex.checkRange 0xFFFF_FFFF_FFFF_FFF0 17 = .ok false := by decide +kernel
example : ex.checkRange 8 0 = .ok true := checkRange_zero ex 8
example : ex.checkRange 7 0 = .ok true := checkRange_zero ex 7

end C02t
end VmMem

#print axioms VmMem.C02t.region_unique
#print axioms VmMem.C02t.findRegion_spec
#print axioms VmMem.C02t.findRegion_some_iff
#print axioms VmMem.C02t.findRegion_none_iff
#print axioms VmMem.C02t.findRegion_no_panic
#print axioms VmMem.C02t.toRegionAddr_spec
#print axioms VmMem.C02t.addressInRange_spec
#print axioms VmMem.C02t.addressInRange_iff
#print axioms VmMem.C02t.checkAddress_spec
#print axioms VmMem.C02t.checkAddress_iff
#print axioms VmMem.C02t.checkedOffset_eq
#print axioms VmMem.C02t.checkedOffset_spec
#print axioms VmMem.C02t.checkedOffset_none
#print axioms VmMem.C02t.getHostAddress_spec
#print axioms VmMem.C02t.lastAddr_nil
#print axioms VmMem.C02t.lastAddr_spec
#print axioms VmMem.C02t.lastAddr_no_panic
#print axioms VmMem.C02t.checkRange_spec
#print axioms VmMem.C02t.checkRange_eq_decide
#print axioms VmMem.C02t.checkRange_zero
#print axioms VmMem.C02t.checkRange_all
#print axioms VmMem.C02t.numRegions_eq
#print axioms VmMem.C02t.iter_sorted
#print axioms VmMem.C02t.iter_sorted_idx
#print axioms VmMem.C02t.ex_WF
#print axioms VmMem.C02t.lastAddr_order_independent
#print axioms VmMem.C02t.lastAddr_perm_greatest
