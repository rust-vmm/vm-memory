/-
  VmMem.Props.C08 — concurrency: no dirty mark is lost.

  A concurrent execution of any number of threads running any `AtomicBitmap`
  operations is (because every access is a SeqCst RMW / acquire load on a single
  word) *some list of `AStep`s* applied in order.  All theorems below quantify
  over ALL step lists `σ`; in particular over every interleaving of every set of
  operation programs (`rangeProgram`, `bitProgram`, `harvestProgram`,
  `cloneProgram`), which are shown to be store-free in §7.
-/
import VmMem.Lemmas.BitmapLemmas
namespace VmMem.C08
open VmMem AStep ABitmap

/-! ### 1. no lost mark -/

/-- Once bit `bit` of word `w` is set, for EVERY continuation `σ` without plain
    stores: either no step of `σ` clears it and it is still set at the end, or the
    FIRST step that clears it (a harvest `fetchAnd w 0`, or a range/bit reset)
    returned a word with the bit set, i.e. observed the mark. -/
theorem no_lost_mark (s : Words) (w bit : Nat) (_hw : w < s.length) (_hbit : bit < 64)
    (hset : (s.getD w 0).getLsbD bit = true)
    (σ : List AStep) (hns : ∀ a ∈ σ, a.isStore = false) :
    match σ.findIdx? (AStep.clears w bit) with
    | none => ((runAll s σ).1.getD w 0).getLsbD bit = true
    | some j => ((runAll s σ).2.getD j 0).getLsbD bit = true := by
  -- the first clearing step reads the word that the clear-free prefix left, with the bit still set
  cases hf : σ.findIdx? (AStep.clears w bit) with
  | none =>
    exact runAll_keeps s w bit true σ hset hns fun a ha => by
      simpa using List.findIdx?_eq_none_iff.1 hf a ha
  | some j =>
    obtain ⟨hj, hc, hbefore⟩ := List.findIdx?_eq_some_iff_getElem.1 hf
    show ((runAll s σ).2.getD j 0).getLsbD bit = true
    rw [runAll_ret s σ j hj w (reads_of_clears w bit _ hc)]
    refine runAll_keeps s w bit true _ hset (fun a ha => hns a (List.mem_of_mem_take ha)) fun a ha => ?_
    obtain ⟨i, hi, rfl⟩ := List.mem_take_iff_getElem.1 ha
    simpa using hbefore i (by omega)

/-- `no_lost_mark` without its two range hypotheses, which a set bit implies -/
theorem no_lost_mark' (s : Words) (w bit : Nat)
    (hset : (s.getD w 0).getLsbD bit = true)
    (σ : List AStep) (hns : ∀ a ∈ σ, a.isStore = false) :
    match σ.findIdx? (AStep.clears w bit) with
    | none => ((runAll s σ).1.getD w 0).getLsbD bit = true
    | some j => ((runAll s σ).2.getD j 0).getLsbD bit = true :=
  no_lost_mark s w bit
    (Nat.lt_of_not_le fun h => by rw [getD_of_length_le s w h] at hset; simp at hset)
    (BitVec.lt_of_getLsbD hset) hset σ hns

/-! ### 2. the mark made by a particular `fetch_or` inside a trace -/

/-- For a trace `pre ++ [fetchOr w m] ++ σ` (arbitrary prefix, even with stores;
    store-free suffix): the bit set by that `fetch_or` is either still set at the
    end of the whole trace, or the first clearing step of `σ` — which is step
    number `pre.length + 1 + j` of the whole trace — returned it. -/
theorem mark_then (s : Words) (w bit : Nat) (hw : w < s.length) (hbit : bit < 64)
    (pre σ : List AStep) (m : BitVec 64) (hm : m.getLsbD bit = true)
    (hns : ∀ a ∈ σ, a.isStore = false) :
    match σ.findIdx? (AStep.clears w bit) with
    | none => ((runAll s (pre ++ [.fetchOr w m] ++ σ)).1.getD w 0).getLsbD bit = true
    | some j =>
      ((runAll s (pre ++ [.fetchOr w m] ++ σ)).2.getD (pre.length + 1 + j) 0).getLsbD bit
        = true := by
  have hs1 : (((runAll s (pre ++ [.fetchOr w m])).1.getD w 0).getLsbD bit) = true := by
    rw [runAll_append, runAll_cons, runAll_nil, AStep.run_bit _ _ _ _ rfl, runAll_length]
    simp [AStep.sets, AStep.clears, hm, hw]
  have key := no_lost_mark _ w bit (by rw [runAll_length]; exact hw) hbit hs1 σ hns
  have hl : (pre ++ [AStep.fetchOr w m]).length = pre.length + 1 := by simp
  rw [runAll_append]
  generalize List.findIdx? (AStep.clears w bit) σ = o at key ⊢
  cases o with
  | none => exact key
  | some j =>
    dsimp only at key ⊢
    rw [List.getD_eq_getElem?_getD] at key ⊢
    rw [List.getElem?_append_right (by rw [runAll_rets_length, hl]; omega), runAll_rets_length, hl,
      Nat.add_sub_cancel_left]
    exact key

/-- page-level reading of `mark_then`: the step that `set_bit(p)` / `set_addr_range`
    issues for page `p` is `bitStep p true = fetchOr (p / 64) (bitMask p)`; its mark
    on page `p` is never lost by any store-free continuation. -/
theorem page_mark_then (s : Words) (p : Nat) (hw : p / 64 < s.length)
    (pre σ : List AStep) (hns : ∀ a ∈ σ, a.isStore = false) :
    match σ.findIdx? (AStep.clears (p / 64) (p % 64)) with
    | none => testBit (runAll s (pre ++ [bitStep p true] ++ σ)).1 p = true
    | some j =>
      ((runAll s (pre ++ [bitStep p true] ++ σ)).2.getD (pre.length + 1 + j) 0).getLsbD (p % 64)
        = true := by
  have hm : (bitMask p).getLsbD (p % 64) = true := by rw [bitMask_getLsbD]; simp
  exact mark_then s (p / 64) (p % 64) hw (Nat.mod_lt _ (by decide)) pre σ (bitMask p) hm hns

/-- the steps that can clear page `p`: the harvest step on its word … -/
theorem harvest_step_clears (w bit : Nat) : AStep.clears w bit (.fetchAnd w 0) = true := by
  simp [AStep.clears]

/-- … and `reset_bit(p)` / the `reset_addr_range` step for page `p` -/
theorem resetStep_clears (p : Nat) : AStep.clears (p / 64) (p % 64) (bitStep p false) = true := by
  rw [bitStep_clears]; simp

theorem markStep_sets (p : Nat) : AStep.sets (p / 64) (p % 64) (bitStep p true) = true := by
  rw [bitStep_sets]; simp

/-! ### 3. no phantom marks -/

/-- A bit that is clear initially and set at the end was set by some step. -/
theorem no_phantom_final (s : Words) (σ : List AStep) (hns : ∀ a ∈ σ, a.isStore = false)
    (w bit : Nat) (hclean : (s.getD w 0).getLsbD bit = false)
    (hend : ((runAll s σ).1.getD w 0).getLsbD bit = true) :
    ∃ a ∈ σ, AStep.sets w bit a = true := by
  apply Classical.byContradiction
  intro hne
  rw [runAll_keeps s w bit false σ hclean hns fun a ha => Bool.eq_false_iff.2 fun h => hne ⟨a, ha, h⟩] at hend
  cases hend

/-- A read (`fetchOr`/`fetchAnd`/`load` on word `w`, in particular a harvest) only
    reports a bit that some EARLIER step set, if the bit was clear initially. -/
theorem no_phantom (s : Words) (σ : List AStep) (hns : ∀ a ∈ σ, a.isStore = false)
    (w bit : Nat) (hclean : (s.getD w 0).getLsbD bit = false)
    (j : Nat) (hj : j < σ.length)
    (hret : ((runAll s σ).2.getD j 0).getLsbD bit = true)
    (hw : (σ[j]).reads w = true) :
    ∃ i, ∃ (hi : i < j), AStep.sets w bit (σ[i]'(by omega)) = true := by
  rw [runAll_ret s σ j hj w hw] at hret
  obtain ⟨a, ha, hs⟩ := no_phantom_final s (σ.take j) (fun a ha => hns a (List.mem_of_mem_take ha))
    w bit hclean hret
  obtain ⟨i, hi, rfl⟩ := List.mem_take_iff_getElem.1 ha
  exact ⟨i, by omega, hs⟩

/-! ### 4. marks commute -/

theorem marks_commute (s : Words) (w : Nat) (m1 m2 : BitVec 64) :
    (runAll s [.fetchOr w m1, .fetchOr w m2]).1 = (runAll s [.fetchOr w m2, .fetchOr w m1]).1 := by
  apply words_ext
  · simp [runAll_length]
  · intro j
    simp only [runAll_cons, runAll_nil, AStep.run, getD_set_words, List.length_set]
    by_cases h : w = j ∧ w < s.length
    · obtain ⟨rfl, hl⟩ := h
      simp only [hl, and_self, if_true]
      rw [BitVec.or_assoc, BitVec.or_comm m1 m2, ← BitVec.or_assoc]
    · simp only [h, if_false]

theorem marks_both_set (s : Words) (w : Nat) (m1 m2 : BitVec 64) (hw : w < s.length) :
    (runAll s [.fetchOr w m1, .fetchOr w m2]).1.getD w 0 = s.getD w 0 ||| m1 ||| m2 := by
  simp only [runAll_cons, runAll_nil, AStep.run, getD_set_words, List.length_set, hw, and_self,
    if_true]

theorem marks_both_set_bits (s : Words) (w : Nat) (m1 m2 : BitVec 64) (hw : w < s.length)
    (bit : Nat) (h : m1.getLsbD bit = true ∨ m2.getLsbD bit = true) :
    ((runAll s [.fetchOr w m1, .fetchOr w m2]).1.getD w 0).getLsbD bit = true := by
  rw [marks_both_set s w m1 m2 hw]
  simp only [BitVec.getLsbD_or]
  rcases h with h | h <;> simp [h]

/-! ### 5. steps never change the number of words -/

theorem steps_preserve_length (s : Words) (σ : List AStep) :
    (runAll s σ).1.length = s.length := runAll_length s σ

theorem rets_length (s : Words) (σ : List AStep) : (runAll s σ).2.length = σ.length :=
  runAll_rets_length s σ

/-! ### 6. sensitivity: a non-atomic `set_bit` (or any plain store) loses marks

  Suppose thread A's `set_bit(1)` were `old = load; store (old ||| mask)` instead of
  `fetch_or`.  Interleaving: A loads (0), thread B marks bit 0 with a real
  `fetch_or`, A stores `0 ||| 2`, then a harvest `fetch_and(0)`.  B's mark is
  neither in the harvest result nor set at the end: it is lost.  The three steps
  around B's mark are `load; store; harvest`; the suffix after the mark contains a
  plain store, so `hns` of `no_lost_mark` fails — exactly why `reset()` (plain
  stores) is documented as not being a harvest. -/

def lostTrace : List AStep :=
  [.load 0, .fetchOr 0 1#64, .store 0 (0#64 ||| 2#64), .fetchAnd 0 0#64]

/-- the harvest (step 3) does not report bit 0 … -/
example : ((runAll [0#64] lostTrace).2.getD 3 0).getLsbD 0 = false := by decide
/-- … and it is not set at the end either … -/
example : ((runAll [0#64] lostTrace).1.getD 0 0).getLsbD 0 = false := by decide
/-- … although it was set right after B's `fetch_or` … -/
example : ((runAll [0#64] (lostTrace.take 2)).1.getD 0 0).getLsbD 0 = true := by decide
/-- … and the harvest IS the first step after the mark that clears the bit in the
    sense of `AStep.clears`; the conclusion of `no_lost_mark` is false here. -/
example : (lostTrace.drop 2).findIdx? (AStep.clears 0 0) = some 1 := by decide
example : ((runAll (runAll [0#64] (lostTrace.take 2)).1 (lostTrace.drop 2)).2.getD 1 0).getLsbD 0
    = false := by decide
/-- the only hypothesis of `no_lost_mark` that fails is store-freedom -/
example : ¬ ∀ a ∈ lostTrace.drop 2, a.isStore = false := by decide

/-- and with the real atomic `set_bit` (`fetch_or`) in A's place the harvest sees
    both marks (non-vacuity of the positive statement). -/
example : (runAll [0#64] [.fetchOr 0 1#64, .fetchOr 0 2#64, .fetchAnd 0 0#64]).2.getD 2 0 = 3#64 := by
  decide

/-! ### 7. the programs of all operations except `reset` are store-free -/

theorem rangeProgram_no_store (b : ABitmap) (start len : Nat) (set : Bool) :
    ∀ a ∈ b.rangeProgram start len set, a.isStore = false := by
  rw [rangeProgram_eq]; exact pageSteps_no_store _ _

theorem bitProgram_no_store (b : ABitmap) (i : Nat) (set : Bool) :
    ∀ a ∈ b.bitProgram i set, a.isStore = false := by
  rw [bitProgram_eq]; exact pageSteps_no_store _ _

theorem harvestProgram_no_store (b : ABitmap) : ∀ a ∈ b.harvestProgram, a.isStore = false :=
  List.forall_mem_map.2 fun _ _ => rfl

theorem cloneProgram_no_store (b : ABitmap) : ∀ a ∈ b.cloneProgram, a.isStore = false :=
  List.forall_mem_map.2 fun _ _ => rfl

/-- whereas `reset` consists of plain stores only (so it is NOT covered) -/
theorem resetProgram_all_store (b : ABitmap) : ∀ a ∈ b.resetProgram, a.isStore = true :=
  List.forall_mem_map.2 fun _ _ => rfl

/-- Any concatenation/interleaving of store-free programs is store-free: if every
    step of `σ` comes from one of the given programs, `no_lost_mark` applies. -/
theorem interleaving_no_store (progs : List (List AStep))
    (hp : ∀ p ∈ progs, ∀ a ∈ p, a.isStore = false)
    (σ : List AStep) (hσ : ∀ a ∈ σ, ∃ p ∈ progs, a ∈ p) : ∀ a ∈ σ, a.isStore = false := by
  intro a ha
  obtain ⟨p, hpp, hap⟩ := hσ a ha
  exact hp p hpp a hap

end VmMem.C08

#print axioms VmMem.C08.no_lost_mark
#print axioms VmMem.C08.no_lost_mark'
#print axioms VmMem.C08.mark_then
#print axioms VmMem.C08.page_mark_then
#print axioms VmMem.C08.harvest_step_clears
#print axioms VmMem.C08.resetStep_clears
#print axioms VmMem.C08.markStep_sets
#print axioms VmMem.C08.no_phantom
#print axioms VmMem.C08.no_phantom_final
#print axioms VmMem.C08.marks_commute
#print axioms VmMem.C08.marks_both_set
#print axioms VmMem.C08.marks_both_set_bits
#print axioms VmMem.C08.steps_preserve_length
#print axioms VmMem.C08.rangeProgram_no_store
#print axioms VmMem.C08.bitProgram_no_store
#print axioms VmMem.C08.harvestProgram_no_store
#print axioms VmMem.C08.cloneProgram_no_store
#print axioms VmMem.C08.resetProgram_all_store
#print axioms VmMem.C08.interleaving_no_store
