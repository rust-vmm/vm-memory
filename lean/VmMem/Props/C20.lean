/-
  VmMem.Props.C20 — endian wrappers (endian.rs): for every width `k` (bytes),
  both hosts and both declared byte orders.
-/
import VmMem.Model.Endian
namespace VmMem
namespace C20
open Endian

/-! ### 1. byte strings -/

theorem leBytes_length (k v : Nat) : (leBytes k v).length = k := by
  induction k generalizing v with
  | zero => rfl
  | succ k ih => simp [leBytes, ih]

theorem beBytes_length (k v : Nat) : (beBytes k v).length = k := by
  simp [beBytes, leBytes_length]

theorem ofLeBytes_lt (bs : List UInt8) : ofLeBytes bs < 256 ^ bs.length := by
  induction bs with
  | nil => simp [ofLeBytes]
  | cons b bs ih =>
    have hb : b.toNat < 256 := b.toNat_lt
    simp only [ofLeBytes, List.length_cons, Nat.pow_succ]
    omega

theorem ofBeBytes_lt (bs : List UInt8) : ofBeBytes bs < 256 ^ bs.length := by
  have := ofLeBytes_lt bs.reverse
  rwa [List.length_reverse] at this

/-- decoding the `k` low bytes yields the value modulo `256^k` -/
theorem ofLeBytes_leBytes_mod (k v : Nat) : ofLeBytes (leBytes k v) = v % 256 ^ k := by
  induction k generalizing v with
  | zero => simp [leBytes, ofLeBytes, Nat.mod_one]
  | succ k ih =>
    simp only [leBytes, ofLeBytes, ih, UInt8.toNat_ofNat']
    have e : 256 ^ (k + 1) = 256 * 256 ^ k := by rw [Nat.pow_succ, Nat.mul_comm]
    rw [e, Nat.mod_mul]
    exact congrArg (· + _) (Nat.mod_mod v 256)

theorem ofLeBytes_leBytes (k v : Nat) (hv : v < 256 ^ k) : ofLeBytes (leBytes k v) = v := by
  rw [ofLeBytes_leBytes_mod, Nat.mod_eq_of_lt hv]

theorem leBytes_ofLeBytes (bs : List UInt8) : leBytes bs.length (ofLeBytes bs) = bs := by
  induction bs with
  | nil => rfl
  | cons b bs ih =>
    have hb : b.toNat < 256 := b.toNat_lt
    have h1 : (b.toNat + 256 * ofLeBytes bs) % 256 = b.toNat := by
      rw [Nat.add_mul_mod_self_left, Nat.mod_eq_of_lt hb]
    have h2 : (b.toNat + 256 * ofLeBytes bs) / 256 = ofLeBytes bs := by
      rw [Nat.add_mul_div_left _ _ (by decide : 0 < 256), Nat.div_eq_of_lt hb, Nat.zero_add]
    simp only [List.length_cons, ofLeBytes, leBytes, h1, h2, ih, UInt8.ofNat_toNat]

theorem ofBeBytes_beBytes (k v : Nat) (hv : v < 256 ^ k) : ofBeBytes (beBytes k v) = v := by
  simp only [ofBeBytes, beBytes, List.reverse_reverse]
  exact ofLeBytes_leBytes k v hv

theorem beBytes_ofBeBytes (bs : List UInt8) : beBytes bs.length (ofBeBytes bs) = bs := by
  have := leBytes_ofLeBytes bs.reverse
  rw [List.length_reverse] at this
  simp only [ofBeBytes, beBytes, this, List.reverse_reverse]

theorem leBytes_ofLeBytes_of_length {k : Nat} {bs : List UInt8} (h : bs.length = k) :
    leBytes k (ofLeBytes bs) = bs := by
  subst h; exact leBytes_ofLeBytes bs

/-! ### 2. swap_bytes -/

theorem swapBytes_lt (k v : Nat) : swapBytes k v < 256 ^ k := by
  have := ofLeBytes_lt (beBytes k v)
  rwa [beBytes_length] at this

theorem leBytes_swapBytes (k v : Nat) : leBytes k (swapBytes k v) = beBytes k v :=
  leBytes_ofLeBytes_of_length (beBytes_length k v)

theorem beBytes_swapBytes (k v : Nat) : beBytes k (swapBytes k v) = leBytes k v := by
  unfold beBytes
  rw [leBytes_swapBytes]
  simp only [beBytes, List.reverse_reverse]

theorem swapBytes_involutive (k v : Nat) (hv : v < 256 ^ k) : swapBytes k (swapBytes k v) = v := by
  show ofLeBytes (beBytes k (swapBytes k v)) = v
  rw [beBytes_swapBytes, ofLeBytes_leBytes k v hv]

/-- swapping the native integer read from a byte string = reading the reversed string -/
theorem swapBytes_ofLeBytes {k : Nat} {bs : List UInt8} (h : bs.length = k) :
    swapBytes k (ofLeBytes bs) = ofBeBytes bs := by
  show ofLeBytes (leBytes k (ofLeBytes bs)).reverse = ofLeBytes bs.reverse
  rw [leBytes_ofLeBytes_of_length h]

theorem swapBytes_ofBeBytes {k : Nat} {bs : List UInt8} (h : bs.length = k) :
    swapBytes k (ofBeBytes bs) = ofLeBytes bs := by
  show ofLeBytes (leBytes k (ofLeBytes bs.reverse)).reverse = ofLeBytes bs
  rw [leBytes_ofLeBytes_of_length (by rw [List.length_reverse]; exact h), List.reverse_reverse]

/-! ### 3. wrappers -/

theorem toOrder_involutive (h : Host) (o : Order) (k v : Nat) (hv : v < 256 ^ k) :
    toOrder h o k (toOrder h o k v) = v := by
  cases h <;> cases o <;> first | rfl | exact swapBytes_involutive k v hv

theorem wrap_lt (h : Host) (o : Order) (k v : Nat) (hv : v < 256 ^ k) : wrap h o k v < 256 ^ k := by
  cases h <;> cases o <;> first | exact hv | exact swapBytes_lt k v

theorem round_trip (h : Host) (o : Order) (k v : Nat) (hv : v < 256 ^ k) :
    toNative h o k (wrap h o k v) = v :=
  toOrder_involutive h o k v hv

/-- The in-memory image of the wrapper is the value in the declared byte order on
    either host.  (No bound on `v` is needed: both sides keep the low `k` bytes.) -/
theorem wire_bytes' (h : Host) (o : Order) (k v : Nat) :
    hostBytes h k (wrap h o k v) = wireBytes o k v := by
  cases h <;> cases o
  · rfl
  · exact leBytes_swapBytes k v
  · exact beBytes_swapBytes k v
  · rfl

theorem wire_bytes (h : Host) (o : Order) (k v : Nat) (_hv : v < 256 ^ k) :
    hostBytes h k (wrap h o k v) = wireBytes o k v :=
  wire_bytes' h o k v

theorem eq_native_iff (h : Host) (o : Order) (k v n : Nat) (hv : v < 256 ^ k) (hn : n < 256 ^ k) :
    eqNative h o k (wrap h o k v) n = true ↔ n = v := by
  unfold eqNative wrap
  rw [beq_iff_eq]
  constructor
  · intro e
    have := congrArg (toOrder h o k) e
    rw [toOrder_involutive h o k v hv, toOrder_involutive h o k n hn] at this
    exact this.symm
  · intro e; rw [e]

theorem unwrap_wire (h : Host) (o : Order) (k : Nat) (bs : List UInt8) (hlen : bs.length = k) :
    toNative h o k (ofHostBytes h bs) =
      (match o with | .le => ofLeBytes bs | .be => ofBeBytes bs) := by
  cases h <;> cases o
  · rfl
  · exact swapBytes_ofLeBytes hlen
  · exact swapBytes_ofBeBytes hlen
  · rfl

/-- memory → wrapper → memory is the identity on `k`-byte strings -/
theorem hostBytes_ofHostBytes (h : Host) (bs : List UInt8) :
    hostBytes h bs.length (ofHostBytes h bs) = bs := by
  cases h
  · exact leBytes_ofLeBytes bs
  · exact beBytes_ofBeBytes bs

/-! ### non-vacuity -/

example : leBytes 2 0x1234 = [0x34, 0x12] := by decide
example : beBytes 4 0x12345678 = [0x12, 0x34, 0x56, 0x78] := by decide
example : swapBytes 2 0x1234 = 0x3412 := by decide
example : swapBytes 4 0x12345678 = 0x78563412 := by decide
example : wrap .little .be 2 0x1234 = 0x3412 := by decide
example : wrap .big .be 2 0x1234 = 0x1234 := by decide
example : hostBytes .little 2 (wrap .little .be 2 0x1234) = [0x12, 0x34] := by decide
example : hostBytes .big 2 (wrap .big .le 2 0x1234) = [0x34, 0x12] := by decide
example : hostBytes .little 4 (wrap .little .be 4 0x12345678) = [0x12, 0x34, 0x56, 0x78] := by decide
example : hostBytes .big 4 (wrap .big .le 4 0x12345678) = [0x78, 0x56, 0x34, 0x12] := by decide
example : toNative .little .be 4 (wrap .little .be 4 0x12345678) = 0x12345678 := by decide
example : toNative .big .le 4 (ofHostBytes .big [0x78, 0x56, 0x34, 0x12]) = 0x12345678 := by decide
example : eqNative .little .be 2 (wrap .little .be 2 0x1234) 0x1234 = true := by decide
example : eqNative .little .be 2 (wrap .little .be 2 0x1234) 0x3412 = false := by decide
/-- the bound `v < 256^k` in `round_trip` is needed: wider values are truncated by a swap -/
example : toNative .little .be 2 (wrap .little .be 2 0x123456) ≠ 0x123456 := by decide

#print axioms leBytes_length
#print axioms ofLeBytes_leBytes
#print axioms leBytes_ofLeBytes
#print axioms ofLeBytes_lt
#print axioms swapBytes_involutive
#print axioms swapBytes_lt
#print axioms round_trip
#print axioms wire_bytes
#print axioms wire_bytes'
#print axioms eq_native_iff
#print axioms unwrap_wire
#print axioms wrap_lt
#print axioms hostBytes_ofHostBytes

end C20
end VmMem
