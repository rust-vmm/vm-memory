/-
  VmMem.Props.C05 — soundness of dirty-page tracking: no tracked write leaves its
  pages clean.

  Setting and invariant are `Dirty.Setting m b B0` and `Dirty.Tracks` (DirtyLemmas §0): byte `i`
  of the container lives on page `(B0 + i) / b.page`; `dirty m B0 i` is the bit of that page.

  * `copy_to_volatile_slice(slice, src, total)` (a private `unsafe fn`) is only correct
    for `total ≤ slice.len()`; the theorem about it carries that hypothesis, every
    public caller discharges it.  The model marks `total` bytes even when `src` is
    shorter than `total`; the window is therefore `total` (the value the function
    returns), and the bytes stored are a prefix of it.
  * `Tracks` reduces the bitmap offset `% U`, as `wrapping_add` does; the derivation steps need
    no bound on `B0`, only the root needs `B0 < U`.
-/
import VmMem.Lemmas.DirtyLemmas
namespace VmMem.C05
open VmMem C01 Dirty VolatileLemmas

/-! ## §1 the bitmap offset tracks the address -/

/-- the root slice `{addr := m.base, size := m.bytes.length, bmBase := B0}` tracks -/
theorem root_tracks (m : Mem) (B0 : Nat) (hB : B0 < U) :
    Tracks m B0 (.sl { addr := m.base, size := m.bytes.length, bmBase := B0 }) :=
  ⟨by show B0 = (B0 + (m.base - m.base)) % U
      rw [Nat.sub_self, Nat.add_zero, Nat.mod_eq_of_lt hB], Nat.le_refl _, Nat.le_refl _⟩

/-- `Mem.root` is the case `B0 = 0` -/
theorem mem_root_tracks (m : Mem) : Tracks m 0 (.sl m.root) :=
  root_tracks m 0 (by decide)

/-- every derivation step (sub, off, splitL, splitR, getRef, getArr, refToSlice,
    arrToSlice, refAt, sliceToArr) preserves the invariant -/
theorem derive_tracks {m : Mem} {B0 : Nat} (a a' : Acc) (op : DOp) (h : Tracks m B0 a)
    (hd : C01.derive a op = .ok a') : Tracks m B0 a' :=
  h.shift (C01.derive_shift hd)

theorem offset_tracks {m : Mem} {B0 : Nat} {s s' : VSlice} {cnt : Nat} (ht : Tracks m B0 (.sl s))
    (h : s.offset cnt = .ok s') : Tracks m B0 (.sl s') :=
  derive_tracks (.sl s) _ (.off cnt) ht (congrArg (mapOk Acc.sl) h)

theorem refAt_tracks {m : Mem} {B0 : Nat} {a : VArr} {r : VRef} {i : Nat} (ht : Tracks m B0 (.ar a))
    (h : a.refAt i = .ok r) : Tracks m B0 (.rf r) :=
  derive_tracks (.ar a) _ (.refAt i) ht (congrArg (mapOk Acc.rf) h)

theorem chain_tracks {m : Mem} {B0 : Nat} (a a' : Acc) (ops : List DOp) (h : Tracks m B0 a)
    (hd : C01.deriveChain a ops = .ok a') : Tracks m B0 a' :=
  C01.chain_induction (P := Tracks m B0) (fun h0 h1 => derive_tracks _ _ _ h0 h1) h hd

/-- every accessor obtained from the root by a chain of any depth tracks -/
theorem root_chain_tracks (m : Mem) (B0 : Nat) (hB : B0 < U) (ops : List DOp) (a : Acc)
    (hd : C01.deriveChain (.sl { addr := m.base, size := m.bytes.length, bmBase := B0 }) ops = .ok a) :
    Tracks m B0 a :=
  chain_tracks _ a ops (root_tracks m B0 hB) hd

/-! ## §2 a mark through a tracked slice -/

/-- `saturating_add` does not saturate, no page is cut off by `size`: exactly the
    pages of `[B0 + o + off, B0 + o + off + len)` are added, `o = s.addr - m.base` -/
theorem mark_pages {m : Mem} {b : ABitmap} {B0 : Nat} (hs : Setting m b B0) (s : VSlice)
    (ht : Tracks m B0 (.sl s)) (off len : Nat)
    (hfit : (s.addr - m.base) + off + len ≤ m.bytes.length) (m' : Mem)
    (h : m.mark s.bmBase off len = .ok m') :
    m'.bytes = m.bytes ∧ ∃ b', m'.bm = some b' ∧ C09.Inv b' ∧ b'.page = b.page ∧
      b'.byteSize = b.byteSize ∧
      ∀ p, b'.bit p = (b.bit p || decide (0 < len ∧ (B0 + (s.addr - m.base) + off) / b.page ≤ p ∧
        p ≤ (B0 + (s.addr - m.base) + off + len - 1) / b.page)) := by
  obtain ⟨h1, b', he⟩ := ht.mark hs hfit h
  refine ⟨h1, b', he.bm, he.inv, he.page, he.byteSize, fun p => ?_⟩
  rw [he.bits p]
  simp only [markedBits, Acc.lo, Nat.add_assoc]

/-! ## §3 the workhorse: every mutating operation stores inside a window and marks
       exactly the pages of that window -/

section ops
variable {m : Mem} {b : ABitmap} {B0 : Nat}

/-- the fields of `Effect` as one conjunction, `markedBits` spelt out -/
theorem effect_unfold {m' : Mem} {b' : ABitmap} {w n : Nat} (he : Effect m b B0 m' b' w n) :
    m'.base = m.base ∧ m'.bytes.length = m.bytes.length ∧
    (∀ i, (i < w ∨ w + n ≤ i) → m'.bytes[i]? = m.bytes[i]?) ∧
    m'.bm = some b' ∧ C09.Inv b' ∧ b'.page = b.page ∧ b'.byteSize = b.byteSize ∧
    ∀ p, b'.bit p = (b.bit p || decide (0 < n ∧ (B0 + w) / b.page ≤ p ∧ p ≤ (B0 + w + n - 1) / b.page)) :=
  ⟨he.base, he.len, he.outside, he.bm, he.inv, he.page, he.byteSize, he.bits⟩

theorem copyToVolatileSlice_marks (hs : Setting m b B0) {s : VSlice} (ht : Tracks m B0 (.sl s))
    {src : List UInt8} {total n : Nat} {m' : Mem} (htot : total ≤ s.size)
    (h : copyToVolatileSlice m s src total = .ok (m', n)) :
    n = total ∧ ∃ b', Effect m b B0 m' b' (s.addr - m.base) total := by
  unfold copyToVolatileSlice at h
  obtain ⟨m1, h1, h⟩ := (Res.bind_eq_ok _ _ _).1 h
  obtain ⟨m2, h2, h⟩ := (Res.bind_eq_ok _ _ _).1 h
  cases h
  exact ⟨rfl, ht.store_mark_seq hs (off := 0) rfl (Nat.zero_add _ ▸ htot)
    (List.length_take_le _ _) h1 h2⟩

/-- `s.write(buf, addr)` returning count `n`: window `[o + addr, o + addr + n)` -/
theorem write_marks (hs : Setting m b B0) {s : VSlice} (ht : Tracks m B0 (.sl s))
    {buf : List UInt8} {addr n : Nat} {m' : Mem} (h : s.write m buf addr = .ok (m', n)) :
    n = min (s.size - addr) buf.length ∧
      ∃ b', Effect m b B0 m' b' (s.addr - m.base + addr) n := by
  unfold VSlice.write at h
  split at h
  · rename_i he
    cases h
    exact ⟨by rw [List.isEmpty_iff.1 he]; exact (Nat.min_zero _).symm, b, Effect.refl hs _⟩
  · split at h
    · cases h
    · obtain ⟨s', hs', h⟩ := (Res.bind_eq_ok _ _ _).1 h
      obtain ⟨-, -, o3, o4, -⟩ := offset_ok hs'
      obtain ⟨rfl, b', he⟩ := copyToVolatileSlice_marks hs (offset_tracks ht hs')
        (Nat.min_le_left _ _) h
      rw [o3, Nat.sub_add_comm (show m.base ≤ s.addr from ht.2.1)] at he
      exact ⟨by rw [o4], b', he⟩

/-- `write_slice`: whatever the result, the container returned differs from `m` by the
    stored prefix of `n` bytes, which is marked; `n` is the `completed` field of a
    `PartialBuffer` error, and `buf.length` on success. -/
theorem writeSlice_marks (hs : Setting m b B0) {s : VSlice} (ht : Tracks m B0 (.sl s))
    (buf : List UInt8) (addr : Nat) :
    ∃ n b', Effect m b B0 (s.writeSlice m buf addr).1 b' (s.addr - m.base + addr) n ∧
      n ≤ buf.length ∧
      ((s.writeSlice m buf addr).2 = .ok () → n = buf.length) ∧
      (∀ x c, (s.writeSlice m buf addr).2 = .err (.partialBuffer x c) →
        x = buf.length ∧ c = n ∧ n < buf.length) ∧
      (∀ e, (s.writeSlice m buf addr).2 = .err e → (∀ x c, e ≠ .partialBuffer x c) →
        (s.writeSlice m buf addr).1 = m ∧ n = 0) := by
  unfold VSlice.writeSlice
  cases hw : s.write m buf addr with
  | ok p =>
    obtain ⟨m', n⟩ := p
    obtain ⟨hn, b', he⟩ := write_marks hs ht hw
    have hle : n ≤ buf.length := hn ▸ Nat.min_le_right ..
    by_cases hc : n ≠ buf.length
    · simp only [if_pos hc]
      refine ⟨n, b', he, hle, nofun, fun x c h => ?_, fun e h hnp => ?_⟩
      · cases h
        exact ⟨rfl, rfl, Nat.lt_of_le_of_ne hle hc⟩
      · cases h
        exact absurd rfl (hnp _ _)
    · simp only [if_neg hc]
      exact ⟨n, b', he, hle, fun _ => Decidable.of_not_not hc, nofun, nofun⟩
  | err e =>
    refine ⟨0, b, Effect.refl hs _, Nat.zero_le _, nofun, fun x c h => ?_, fun _ _ _ => ⟨rfl, rfl⟩⟩
    cases h
    rcases write_err_kind hw with h | h <;> cases h
  | panic => exact ⟨0, b, Effect.refl hs _, Nat.zero_le _, nofun, nofun, nofun⟩

/-- `store`: the mark is made on the parent slice at `addr`: window `o + addr` -/
theorem store_marks (hs : Setting m b B0) {s : VSlice} (ht : Tracks m B0 (.sl s))
    {val : List UInt8} {t : Ty} {addr : Nat} {m' : Mem} (h : s.store m val t addr = .ok m') :
    addr + t.size ≤ s.size ∧ ∃ b', Effect m b B0 m' b' (s.addr - m.base + addr) t.size := by
  unfold VSlice.store at h
  obtain ⟨p, hp, h⟩ := (Res.bind_eq_ok _ _ _).1 h
  obtain ⟨m1, h1, h2⟩ := (Res.bind_eq_ok _ _ _).1 h
  obtain ⟨-, a2, -, hpe⟩ := alignedRef_ok hp
  exact ⟨a2, ht.store_mark_seq hs hpe a2 (List.length_take_le _ _) h1 h2⟩

theorem refStore_marks (hs : Setting m b B0) {r : VRef} (ht : Tracks m B0 (.rf r))
    {val : List UInt8} {m' : Mem} (h : r.store m val = .ok m') :
    ∃ b', Effect m b B0 m' b' (r.addr - m.base) r.ty.size := by
  unfold VRef.store at h
  obtain ⟨m1, h1, h2⟩ := (Res.bind_eq_ok _ _ _).1 h
  exact ht.store_mark_seq hs (off := 0) rfl (Nat.le_of_eq (Nat.zero_add _))
    (List.length_take_le _ _) h1 h2

theorem arrStore_marks (hs : Setting m b B0) {a : VArr} (ht : Tracks m B0 (.ar a))
    {i : Nat} {val : List UInt8} {m' : Mem} (h : a.store m i val = .ok m') :
    i < a.nelem ∧ ∃ b', Effect m b B0 m' b' (a.addr - m.base + a.ty.size * i) a.ty.size := by
  unfold VArr.store at h
  obtain ⟨r, hr, h⟩ := (Res.bind_eq_ok _ _ _).1 h
  obtain ⟨r1, -, r3, r4, -⟩ := refAt_ok hr
  obtain ⟨b', he⟩ := refStore_marks hs (refAt_tracks ht hr) h
  rw [r3, r4, Nat.sub_add_comm (show m.base ≤ a.addr from ht.2.1)] at he
  exact ⟨r1, b', he⟩

/-- `VolatileArrayRef::copy_from`, both branches: `min(blen, nelem)` elements -/
theorem arrCopyFrom_marks (hs : Setting m b B0) {a : VArr} (ht : Tracks m B0 (.ar a))
    {blen : Nat} {buf : List UInt8} {m' : Mem} (h : a.copyFrom m blen buf = .ok m') :
    ∃ b', Effect m b B0 m' b' (a.addr - m.base) (min blen a.nelem * a.ty.size) := by
  unfold VArr.copyFrom at h
  split at h
  · rename_i h1
    obtain ⟨s, hsl, h⟩ := (Res.bind_eq_ok _ _ _).1 h
    obtain ⟨⟨m2, n⟩, hc, h⟩ := (Res.bind_eq_ok _ _ _).1 h
    cases h
    obtain ⟨-, s2, s3, -⟩ := arrToSlice_ok hsl
    obtain ⟨-, b', he⟩ := copyToVolatileSlice_marks hs
      (derive_tracks (.ar a) _ .arrToSlice ht (congrArg (mapOk Acc.sl) hsl))
      (Nat.min_le_right _ _) hc
    rw [s2, s3, h1, Nat.mul_one] at he
    rw [h1, Nat.mul_one]
    exact ⟨b', he⟩
  · obtain ⟨m1, h1, h2⟩ := (Res.bind_eq_ok _ _ _).1 h
    exact ht.store_mark_seq hs (off := 0) rfl
      (Nat.zero_add _ ▸ Nat.mul_le_mul_right _ (Nat.min_le_right _ _))
      (List.length_take_le _ _) h1 h2

theorem sliceCopyFrom_marks (hs : Setting m b B0) {s : VSlice} (ht : Tracks m B0 (.sl s))
    {t : Ty} {blen : Nat} {buf : List UInt8} {m' : Mem} (h : s.copyFrom m t blen buf = .ok m') :
    ∃ b', Effect m b B0 m' b' (s.addr - m.base) (min blen (s.elemCount t blen) * t.size) := by
  unfold VSlice.copyFrom at h
  split at h
  · rename_i h1
    obtain ⟨⟨m2, n⟩, hc, h⟩ := (Res.bind_eq_ok _ _ _).1 h
    cases h
    obtain ⟨-, b', he⟩ := copyToVolatileSlice_marks hs ht (Nat.min_le_right _ _) hc
    rw [C04.elemCount_one s t blen h1, h1, Nat.mul_one]
    exact ⟨b', he⟩
  · obtain ⟨a, ha, h⟩ := (Res.bind_eq_ok _ _ _).1 h
    have ha := unwrapRes_ok ha
    obtain ⟨-, -, -, -, a1, a2, a3, -⟩ := getArrayRef_ok ha
    obtain ⟨b', he⟩ := arrCopyFrom_marks hs
      (derive_tracks (.sl s) _ (.getArr 0 _ t) ht (congrArg (mapOk Acc.ar) ha)) h
    rw [a1, a2, a3, Nat.add_zero] at he
    exact ⟨b', he⟩

/-- slice-to-slice copy: the marks go to the DESTINATION accessor -/
theorem copyToSlice_marks (hs : Setting m b B0) {s dst : VSlice} (ht : Tracks m B0 (.sl dst))
    {m' : Mem} (h : s.copyToSlice m dst = .ok m') :
    ∃ b', Effect m b B0 m' b' (dst.addr - m.base) (min s.size dst.size) := by
  unfold VSlice.copyToSlice at h
  obtain ⟨d, hd, h⟩ := (Res.bind_eq_ok _ _ _).1 h
  obtain ⟨m1, h1, h2⟩ := (Res.bind_eq_ok _ _ _).1 h
  exact ht.store_mark_seq hs (off := 0) rfl (Nat.zero_add _ ▸ Nat.min_le_right _ _)
    (Nat.le_of_eq (DataLemmas.readAt_length hd)) h1 h2

theorem arrCopyToSlice_marks (hs : Setting m b B0) {a : VArr} {dst : VSlice}
    (ht : Tracks m B0 (.sl dst)) {m' : Mem} (h : a.copyToSlice m dst = .ok m') :
    ∃ b', Effect m b B0 m' b' (dst.addr - m.base) (min (a.nelem * a.ty.size) dst.size) := by
  unfold VArr.copyToSlice at h
  obtain ⟨n, hn, h⟩ := (Res.bind_eq_ok _ _ _).1 h
  obtain ⟨-, rfl⟩ := mulP_ok hn
  exact copyToSlice_marks hs (s := ⟨a.addr, a.nelem * a.ty.size, a.bmBase⟩) ht h

theorem readVolatile_marks (hs : Setting m b B0) {s : VSlice} (ht : Tracks m B0 (.sl s))
    (r : Reader) :
    ∃ n b', Effect m b B0 (r.readVolatile m s).1 b' (s.addr - m.base) n ∧ n ≤ s.size := by
  rw [Reader.readVolatile_eq_xfer]
  cases hx : IoLemmas.xfer (IoLemmas.hd r.script) s.size r.avail.length with
  | some n =>
    simp only [Reader.rvCopy]
    cases hc : copyToVolatileSlice m s r.next.avail n with
    | ok p =>
      obtain ⟨-, b', he⟩ := copyToVolatileSlice_marks hs ht (IoLemmas.xfer_le hx).1 hc
      exact ⟨n, b', he, (IoLemmas.xfer_le hx).1⟩
    | err e => exact ⟨0, b, Effect.refl hs _, Nat.zero_le _⟩
    | panic => exact ⟨0, b, Effect.refl hs _, Nat.zero_le _⟩
  | none =>
    rcases rvFail_fst r.next m s (IoLemmas.errKind (IoLemmas.hd r.script)) with h | ⟨-, hm⟩
    · rw [h]
      exact ⟨0, b, Effect.refl hs _, Nat.zero_le _⟩
    · obtain ⟨-, b', he⟩ := ht.mark hs (off := 0) ht.win.end_le hm
      exact ⟨s.size, b', he, Nat.le_refl _⟩

theorem shift_le {o sh n k : Nat} (h : sh + n ≤ k) : o + sh + n ≤ o + k :=
  Nat.add_assoc .. ▸ Nat.add_le_add_left h o

theorem write_fits {size addr len n : Nat} (hn : n = min (size - addr) len) :
    n = 0 ∨ addr + n ≤ size := by
  rcases Nat.le_total addr size with h | h
  · exact .inr (Nat.add_comm .. ▸ Nat.add_le_of_le_sub h (hn ▸ Nat.min_le_left ..))
  · exact .inl (by rw [hn, Nat.sub_eq_zero_of_le h, Nat.zero_min])

/-- all of the above as one statement over `applyW`: the window starts at
    `winStart m a op` (the accessor's offset in the container plus the operation's
    `addr` / element offset) and lies inside the accessor -/
theorem step_marks_written (hs : Setting m b B0) {a : Acc} (ht : Tracks m B0 a) {op : WOp}
    {m' : Mem} (h : applyW m a op = .ok m') :
    ∃ b' n, Effect m b B0 m' b' (winStart m a op) n ∧
      (n = 0 ∨ winStart m a op + n ≤ a.lo - m.base + a.bytes) := by
  -- for a matching pair `applyW m a op` is by definition the model function, and `winStart`
  -- the accessor's offset plus the operation's: `h` and the bounds are passed on as they stand
  cases a with
  | sl s =>
    cases op with
    | copyIn src total =>
      change (if total ≤ s.size then _ else _) = _ at h
      split at h
      · rename_i htot
        obtain ⟨⟨m2, n⟩, hc, rfl⟩ := (mapOk_eq_ok _ _ _).1 h
        obtain ⟨-, b', he⟩ := copyToVolatileSlice_marks hs ht htot hc
        exact ⟨b', total, he, .inr (Nat.add_le_add_left htot _)⟩
      · cases h
    | write buf addr =>
      obtain ⟨⟨m2, n⟩, hc, rfl⟩ := (mapOk_eq_ok _ _ _).1 h
      obtain ⟨hn, b', he⟩ := write_marks hs ht hc
      exact ⟨b', n, he, (write_fits hn).imp_right shift_le⟩
    | writeSlice buf addr =>
      cases h
      unfold VSlice.writeSlice
      cases hw : s.write m buf addr with
      | ok p =>
        -- either branch of the comparison with `buf.len()` returns the container `write` returned
        obtain ⟨hn, b', he⟩ := write_marks hs ht hw
        exact ⟨b', p.2, by dsimp only; split <;> exact he, (write_fits hn).imp_right shift_le⟩
      | err e => exact ⟨b, 0, Effect.refl hs _, .inl rfl⟩
      | panic => exact ⟨b, 0, Effect.refl hs _, .inl rfl⟩
    | store val t addr =>
      obtain ⟨hfit, b', he⟩ := store_marks hs ht h
      exact ⟨b', t.size, he, .inr (shift_le hfit)⟩
    | copyFrom t blen buf =>
      obtain ⟨b', he⟩ := sliceCopyFrom_marks hs ht h
      exact ⟨b', _, he, .inr (Nat.add_le_add_left (Nat.le_trans
        (Nat.mul_le_mul_right _ (Nat.min_le_right _ _)) (C04.elemCount_mul_le s t blen)) _)⟩
    | fromSlice src =>
      obtain ⟨b', he⟩ := copyToSlice_marks hs ht h
      exact ⟨b', _, he, .inr (Nat.add_le_add_left (Nat.min_le_right _ _) _)⟩
    | fromArr src =>
      obtain ⟨b', he⟩ := arrCopyToSlice_marks hs ht h
      exact ⟨b', _, he, .inr (Nat.add_le_add_left (Nat.min_le_right _ _) _)⟩
    | stream r =>
      cases h
      obtain ⟨n, b', he, hn⟩ := readVolatile_marks hs ht r
      exact ⟨b', n, he, .inr (Nat.add_le_add_left hn _)⟩
    | _ => cases h
  | rf r =>
    cases op with
    | refStore val =>
      obtain ⟨b', he⟩ := refStore_marks hs ht h
      exact ⟨b', _, he, .inr (Nat.le_refl _)⟩
    | _ => cases h
  | ar arr =>
    cases op with
    | arrStore i val =>
      obtain ⟨hi, b', he⟩ := arrStore_marks hs ht h
      exact ⟨b', _, he, .inr (shift_le (elem_end_le hi))⟩
    | arrCopyFrom blen buf =>
      obtain ⟨b', he⟩ := arrCopyFrom_marks hs ht h
      exact ⟨b', _, he, .inr (Nat.add_le_add_left
        (Nat.mul_le_mul_right _ (Nat.min_le_right _ _)) _)⟩
    | _ => cases h

/-! ## §4 soundness -/

/-- after any mutating operation through a tracked accessor, every byte
    of the container that differs between `m` and `m'` is on a page that is dirty in `m'` -/
theorem sound (hs : Setting m b B0) {a : Acc} (ht : Tracks m B0 a) {op : WOp} {m' : Mem}
    (h : applyW m a op = .ok m') :
    ∀ i, m'.bytes[i]? ≠ m.bytes[i]? → dirty m' B0 i = true := by
  obtain ⟨b', n, he, -⟩ := step_marks_written hs ht h
  exact he.sound

/-- … and nothing that was dirty becomes clean -/
theorem marks_monotone (hs : Setting m b B0) {a : Acc} (ht : Tracks m B0 a) {op : WOp} {m' : Mem}
    (h : applyW m a op = .ok m') : ∀ i, dirty m B0 i = true → dirty m' B0 i = true := by
  obtain ⟨b', n, he, -⟩ := step_marks_written hs ht h
  exact he.dirty_mono hs

/-- the setting is re-established, accessors stay tracked -/
theorem step_setting (hs : Setting m b B0) {a : Acc} (ht : Tracks m B0 a) {op : WOp} {m' : Mem}
    (h : applyW m a op = .ok m') :
    ∃ b', Setting m' b' B0 ∧ m'.base = m.base ∧ m'.bytes.length = m.bytes.length ∧
      ∀ a₂, Tracks m B0 a₂ → Tracks m' B0 a₂ := by
  obtain ⟨b', n, he, -⟩ := step_marks_written hs ht h
  exact ⟨b', he.setting hs, he.base, he.len, fun _ h2 => he.tracks h2⟩

/-! the headline for each API function by name -/

theorem sound_write (hs : Setting m b B0) {s : VSlice} (ht : Tracks m B0 (.sl s))
    {buf : List UInt8} {addr n : Nat} {m' : Mem} (h : s.write m buf addr = .ok (m', n)) :
    ∀ i, m'.bytes[i]? ≠ m.bytes[i]? → dirty m' B0 i = true := by
  obtain ⟨-, b', he⟩ := write_marks hs ht h
  exact he.sound

/-- also for a `PartialBuffer` result -/
theorem sound_writeSlice (hs : Setting m b B0) {s : VSlice} (ht : Tracks m B0 (.sl s))
    (buf : List UInt8) (addr : Nat) :
    ∀ i, (s.writeSlice m buf addr).1.bytes[i]? ≠ m.bytes[i]? →
      dirty (s.writeSlice m buf addr).1 B0 i = true := by
  obtain ⟨n, b', he, -⟩ := writeSlice_marks hs ht buf addr
  exact he.sound

theorem sound_writeObj (hs : Setting m b B0) {s : VSlice} (ht : Tracks m B0 (.sl s))
    (val : List UInt8) (addr : Nat) :
    ∀ i, (s.writeObj m val addr).1.bytes[i]? ≠ m.bytes[i]? →
      dirty (s.writeObj m val addr).1 B0 i = true :=
  sound_writeSlice hs ht val addr

theorem sound_store (hs : Setting m b B0) {s : VSlice} (ht : Tracks m B0 (.sl s))
    {val : List UInt8} {t : Ty} {addr : Nat} {m' : Mem} (h : s.store m val t addr = .ok m') :
    ∀ i, m'.bytes[i]? ≠ m.bytes[i]? → dirty m' B0 i = true := by
  obtain ⟨-, b', he⟩ := store_marks hs ht h
  exact he.sound

theorem sound_refStore (hs : Setting m b B0) {r : VRef} (ht : Tracks m B0 (.rf r))
    {val : List UInt8} {m' : Mem} (h : r.store m val = .ok m') :
    ∀ i, m'.bytes[i]? ≠ m.bytes[i]? → dirty m' B0 i = true := by
  obtain ⟨b', he⟩ := refStore_marks hs ht h
  exact he.sound

theorem sound_arrStore (hs : Setting m b B0) {a : VArr} (ht : Tracks m B0 (.ar a))
    {i : Nat} {val : List UInt8} {m' : Mem} (h : a.store m i val = .ok m') :
    ∀ j, m'.bytes[j]? ≠ m.bytes[j]? → dirty m' B0 j = true := by
  obtain ⟨-, b', he⟩ := arrStore_marks hs ht h
  exact he.sound

theorem sound_arrCopyFrom (hs : Setting m b B0) {a : VArr} (ht : Tracks m B0 (.ar a))
    {blen : Nat} {buf : List UInt8} {m' : Mem} (h : a.copyFrom m blen buf = .ok m') :
    ∀ i, m'.bytes[i]? ≠ m.bytes[i]? → dirty m' B0 i = true := by
  obtain ⟨b', he⟩ := arrCopyFrom_marks hs ht h
  exact he.sound

theorem sound_sliceCopyFrom (hs : Setting m b B0) {s : VSlice} (ht : Tracks m B0 (.sl s))
    {t : Ty} {blen : Nat} {buf : List UInt8} {m' : Mem} (h : s.copyFrom m t blen buf = .ok m') :
    ∀ i, m'.bytes[i]? ≠ m.bytes[i]? → dirty m' B0 i = true := by
  obtain ⟨b', he⟩ := sliceCopyFrom_marks hs ht h
  exact he.sound

theorem sound_copyToSlice (hs : Setting m b B0) {s dst : VSlice} (ht : Tracks m B0 (.sl dst))
    {m' : Mem} (h : s.copyToSlice m dst = .ok m') :
    ∀ i, m'.bytes[i]? ≠ m.bytes[i]? → dirty m' B0 i = true := by
  obtain ⟨b', he⟩ := copyToSlice_marks hs ht h
  exact he.sound

theorem sound_arrCopyToSlice (hs : Setting m b B0) {a : VArr} {dst : VSlice}
    (ht : Tracks m B0 (.sl dst)) {m' : Mem} (h : a.copyToSlice m dst = .ok m') :
    ∀ i, m'.bytes[i]? ≠ m.bytes[i]? → dirty m' B0 i = true := by
  obtain ⟨b', he⟩ := arrCopyToSlice_marks hs ht h
  exact he.sound

theorem sound_readVolatile (hs : Setting m b B0) {s : VSlice} (ht : Tracks m B0 (.sl s))
    (r : Reader) :
    ∀ i, (r.readVolatile m s).1.bytes[i]? ≠ m.bytes[i]? →
      dirty (r.readVolatile m s).1 B0 i = true := by
  obtain ⟨n, b', he, -⟩ := readVolatile_marks hs ht r
  exact he.sound

end ops

/-! ## §5 histories: every byte changed since the last reset is dirty -/

/-- one step of a history: a mutating operation through an accessor, a read-type
    operation (no state in its result), or a reset of the bitmap by the VMM -/
inductive Step where
  | write (a : Acc) (op : WOp)
  | read
  | reset                    -- `AtomicBitmap::reset`
  | harvest                  -- `AtomicBitmap::get_and_reset`
  deriving Repr, DecidableEq

/-- state of a history: the container and the ghost snapshot of its bytes at the last reset.
    A rejected operation (`.err`) hands its error to the caller and leaves the state alone. -/
def stepH (st : Mem × List UInt8) : Step → Res (Mem × List UInt8)
  | .write a op =>
    match applyW st.1 a op with
    | .ok m' => .ok (m', st.2)
    | .err _ => .ok st
    | .panic => .panic
  | .read => .ok st
  | .reset => .ok ({ st.1 with bm := st.1.bm.map ABitmap.reset }, st.1.bytes)
  | .harvest => .ok ({ st.1 with bm := st.1.bm.map (fun b => b.getAndReset.1) }, st.1.bytes)

def runH (st : Mem × List UInt8) : List Step → Res (Mem × List UInt8)
  | [] => .ok st
  | x :: xs => stepH st x >>= fun st' => runH st' xs

/-- every byte that differs from the snapshot is on a dirty page -/
def Inv2 (snap : List UInt8) (m : Mem) (B0 : Nat) : Prop :=
  ∀ i, m.bytes[i]? ≠ snap[i]? → dirty m B0 i = true

/-- right after a reset nothing differs -/
theorem Inv2_self (m : Mem) (B0 : Nat) : Inv2 m.bytes m B0 := fun _ h => absurd rfl h

theorem Inv2_write {m m' : Mem} {b b' : ABitmap} {B0 w n : Nat} {snap : List UInt8}
    (hs : Setting m b B0) (he : Effect m b B0 m' b' w n) (hi : Inv2 snap m B0) :
    Inv2 snap m' B0 := by
  intro i hne
  by_cases hc : m'.bytes[i]? = m.bytes[i]?
  · exact he.dirty_mono hs i (hi i (by rw [← hc]; exact hne))
  · exact he.sound i hc

theorem stepH_preserves {m m' : Mem} {b : ABitmap} {B0 : Nat} {snap snap' : List UInt8}
    (hs : Setting m b B0) (hi : Inv2 snap m B0) (x : Step)
    (htr : ∀ a op, x = .write a op → Tracks m B0 a)
    (h : stepH (m, snap) x = .ok (m', snap')) :
    (∃ b', Setting m' b' B0) ∧ Inv2 snap' m' B0 ∧ m'.base = m.base ∧
      m'.bytes.length = m.bytes.length := by
  cases x with
  | write a op =>
    simp only [stepH] at h
    cases ha : applyW m a op with
    | ok m2 =>
      rw [ha] at h
      cases h
      obtain ⟨b', n, he, -⟩ := step_marks_written hs (htr a op rfl) ha
      exact ⟨⟨b', he.setting hs⟩, Inv2_write hs he hi, he.base, he.len⟩
    | err e =>
      rw [ha] at h
      cases h
      exact ⟨⟨b, hs⟩, hi, rfl, rfl⟩
    | panic => rw [ha] at h; cases h
  | read =>
    cases h
    exact ⟨⟨b, hs⟩, hi, rfl, rfl⟩
  | reset =>
    cases h
    obtain ⟨r1, -, r3, -, -⟩ := C09.reset_spec b hs.inv
    exact ⟨⟨b.reset, hs.congr (by simp [hs.bm]) r1 r3 rfl rfl⟩, Inv2_self _ B0, rfl, rfl⟩
  | harvest =>
    cases h
    obtain ⟨r1, -, r3, -, -⟩ := C09.getAndReset_spec b hs.inv
    exact ⟨⟨b.getAndReset.1, hs.congr (by simp [hs.bm]) r1 r3 rfl rfl⟩, Inv2_self _ B0, rfl, rfl⟩

/-- for any list of steps — mutating operations through tracked accessors, reads,
    and resets of the bitmap (`reset` / `get_and_reset`) in any interleaving — every byte
    changed since the last reset is dirty at the end (`snap'` is the ghost snapshot the
    history computes: the bytes at the last reset, or the initial `snap`). -/
theorem sound_history {m : Mem} {b : ABitmap} {B0 : Nat} (hs : Setting m b B0)
    (snap : List UInt8) (hi : Inv2 snap m B0) (steps : List Step)
    (htr : ∀ a op, Step.write a op ∈ steps → Tracks m B0 a)
    {m' : Mem} {snap' : List UInt8} (h : runH (m, snap) steps = .ok (m', snap')) :
    (∃ b', Setting m' b' B0) ∧ ∀ i, m'.bytes[i]? ≠ snap'[i]? → dirty m' B0 i = true := by
  induction steps generalizing m b snap with
  | nil =>
    simp only [runH, Res.ok.injEq, Prod.mk.injEq] at h
    obtain ⟨rfl, rfl⟩ := h
    exact ⟨⟨b, hs⟩, hi⟩
  | cons x xs ih =>
    simp only [runH] at h
    obtain ⟨⟨m1, snap1⟩, h1, h2⟩ := (Res.bind_eq_ok _ _ _).1 h
    obtain ⟨⟨b1, hs1⟩, hi1, hb1, hl1⟩ := stepH_preserves hs hi x
      (fun a op hx => htr a op (by rw [hx]; exact List.mem_cons_self)) h1
    exact ih hs1 snap1 hi1
      (fun a op hmem => (htr a op (List.mem_cons_of_mem _ hmem)).congr hb1 hl1) h2

/-- both reset steps set the ghost snapshot to the bytes of that moment (so `sound_history` is
    about "since the LAST reset") -/
theorem runH_reset_snap (m : Mem) (snap : List UInt8) :
    stepH (m, snap) .reset = .ok ({ m with bm := m.bm.map ABitmap.reset }, m.bytes) ∧
    stepH (m, snap) .harvest = .ok ({ m with bm := m.bm.map (fun b => b.getAndReset.1) }, m.bytes) :=
  ⟨rfl, rfl⟩

/-- non-reset steps never move the snapshot -/
theorem stepH_snap_fixed (st st' : Mem × List UInt8) (x : Step) (hx : x ≠ .reset ∧ x ≠ .harvest)
    (h : stepH st x = .ok st') : st'.2 = st.2 := by
  cases x with
  | write a op =>
    simp only [stepH] at h
    split at h
    · cases h; rfl
    · cases h; rfl
    · cases h
  | read => cases h; rfl
  | reset => exact absurd rfl hx.1
  | harvest => exact absurd rfl hx.2

/-- and a reset really cleans: directly after it no byte is dirty -/
theorem reset_cleans {m : Mem} {b : ABitmap} {B0 : Nat} (hs : Setting m b B0) (i : Nat) :
    dirty { m with bm := m.bm.map ABitmap.reset } B0 i = false ∧
    dirty { m with bm := m.bm.map (fun b => b.getAndReset.1) } B0 i = false := by
  obtain ⟨-, -, -, -, r5⟩ := C09.reset_spec b hs.inv
  obtain ⟨-, -, -, -, g5, -⟩ := C09.getAndReset_spec b hs.inv
  simp only [dirty, hs.bm, Option.map_some]
  exact ⟨r5 _, g5 _⟩

/-! ## §6 a failed descriptor read marks the whole target slice -/

/-- `read_volatile_raw_fd` failing (`Err(other)` or `EINTR`): the bytes are unchanged,
    the error is handed on, and every page overlapping `[o, o + s.size)` is dirty -/
theorem failed_fd_read_marks_all {m : Mem} {b : ABitmap} {B0 : Nat} (hs : Setting m b B0)
    {s : VSlice} (ht : Tracks m B0 (.sl s)) (r : Reader) (hk : r.kind = .fd)
    (beh : Beh) (rest : List Beh) (hsc : r.script = beh :: rest)
    (hb : beh = .fail ∨ beh = .eintr) :
    ∃ m' b',
      r.readVolatile m s = (m', { r with script := rest },
        .err (ioErr (if beh = .fail then IoKind.other else IoKind.interrupted))) ∧
      m'.bytes = m.bytes ∧ Effect m b B0 m' b' (s.addr - m.base) s.size ∧
      (∀ i, s.addr - m.base ≤ i → i < s.addr - m.base + s.size → dirty m' B0 i = true) ∧
      (∀ x, B0 + (s.addr - m.base) ≤ x → x < B0 + (s.addr - m.base) + s.size →
        b'.bit (x / b.page) = true) := by
  obtain ⟨m', hm, -⟩ := DataLemmas.mark_ok m hs.bmInv s.bmBase 0 s.size
  obtain ⟨hbytes, b', he⟩ := ht.mark hs (off := 0) ht.win.end_le hm
  have he : Effect m b B0 m' b' (s.addr - m.base) s.size := he
  refine ⟨m', b', ?_, hbytes, he, he.window_dirty,
    fun x h1 h2 => by rw [he.bits]; exact markedBits_of_mem b h1 h2⟩
  have hn : r.next = { r with script := rest } := by unfold Reader.next; rw [hsc]; rfl
  rw [Reader.readVolatile_eq_xfer, hsc]
  rcases hb with rfl | rfl
  · simp only [IoLemmas.hd, IoLemmas.xfer, Reader.rvFail, hn, hk, hm]
    rfl
  · simp only [IoLemmas.hd, IoLemmas.xfer, Reader.rvFail, hn, hk, hm]
    rfl

/-! ## §7 the `= .ok` hypotheses are satisfiable (a write through a tracked slice is C04's
       `write_spec`, which needs `BmInv`, `MemWF` and `Inside`); non-vacuity -/

/-- a write at an offset inside a tracked slice succeeds and stores `min(size - addr, len)` bytes -/
theorem write_ok {m : Mem} {b : ABitmap} {B0 : Nat} (hs : Setting m b B0) {s : VSlice}
    (ht : Tracks m B0 (.sl s)) (buf : List UInt8) (addr : Nat) (h : addr < s.size) :
    ∃ m', s.write m buf addr = .ok (m', min (s.size - addr) buf.length) := by
  obtain ⟨h0, -, h2⟩ := C04.write_spec m s buf addr hs.bmInv hs.memWF ht.win
  by_cases hne : buf = []
  · exact ⟨m, by rw [h0 hne, hne, List.length_nil, Nat.min_zero]⟩
  · obtain ⟨m', hm', -⟩ := h2 hne h
    exact ⟨m', by rw [hm', Nat.min_comm]⟩

theorem write_no_panic {m : Mem} {b : ABitmap} {B0 : Nat} (hs : Setting m b B0) {s : VSlice}
    (ht : Tracks m B0 (.sl s)) (buf : List UInt8) (addr : Nat) : s.write m buf addr ≠ .panic :=
  C04.write_no_panic m s buf addr hs.bmInv hs.memWF ht.win

theorem dSlice_tracks : Tracks dMem 0 (.sl dSlice) :=
  root_chain_tracks dMem 0 (by decide) _ _ dSlice_chain

/-- 300-byte container, 128-byte pages, `B0 = 0`; the slice reached by the depth-3 chain
    `sub 5 290`, `off 130`, `sub 7 10` starts at container byte 142 with `bmBase = 142` -/
example : deriveChain (.sl (rootAt dMem 0)) [.sub 5 290, .off 130, .sub 7 10]
    = .ok (.sl { addr := 0x1000 + 142, size := 10, bmBase := 142 }) := dSlice_chain

/-- a 2-byte write through it succeeds, marks page 1 and not page 0 (nor page 2) -/
theorem ex_two_byte_write :
    ∃ m' b', dSlice.write dMem [1, 2] 0 = .ok (m', 2) ∧ m'.bm = some b' ∧
      b'.bit 1 = true ∧ b'.bit 0 = false ∧ b'.bit 2 = false ∧
      dirty m' 0 142 = true ∧ dirty m' 0 143 = true ∧ dirty m' 0 127 = false := by
  obtain ⟨m', hm'⟩ := write_ok dMem_setting dSlice_tracks [1, 2] 0 (by decide)
  have h2 : min (dSlice.size - 0) ([1, 2] : List UInt8).length = 2 := by decide
  rw [h2] at hm'
  obtain ⟨-, b', he⟩ := write_marks dMem_setting dSlice_tracks hm'
  have hw : dSlice.addr - dMem.base + 0 = 142 := by decide
  rw [hw] at he
  refine ⟨m', b', hm', he.bm, ?_⟩
  simp only [dirty_of_bm he.bm, he.page, he.bits]
  decide

/-- had the chain dropped a base offset (say `bmBase = 12` instead of `142`) the accessor
    would not be `Tracks`: the invariant is not vacuous -/
example : ¬ Tracks dMem 0 (.sl { addr := 0x1000 + 142, size := 10, bmBase := 12 }) := by
  intro h
  have := h.1
  revert this
  decide

end VmMem.C05

#print axioms VmMem.C05.root_tracks
#print axioms VmMem.C05.mem_root_tracks
#print axioms VmMem.C05.derive_tracks
#print axioms VmMem.C05.chain_tracks
#print axioms VmMem.C05.root_chain_tracks
#print axioms VmMem.C05.mark_pages
#print axioms VmMem.C05.effect_unfold
#print axioms VmMem.C05.copyToVolatileSlice_marks
#print axioms VmMem.C05.write_marks
#print axioms VmMem.C05.writeSlice_marks
#print axioms VmMem.C05.store_marks
#print axioms VmMem.C05.refStore_marks
#print axioms VmMem.C05.arrStore_marks
#print axioms VmMem.C05.arrCopyFrom_marks
#print axioms VmMem.C05.sliceCopyFrom_marks
#print axioms VmMem.C05.copyToSlice_marks
#print axioms VmMem.C05.arrCopyToSlice_marks
#print axioms VmMem.C05.readVolatile_marks
#print axioms VmMem.C05.step_marks_written
#print axioms VmMem.C05.sound
#print axioms VmMem.C05.marks_monotone
#print axioms VmMem.C05.step_setting
#print axioms VmMem.C05.sound_write
#print axioms VmMem.C05.sound_writeSlice
#print axioms VmMem.C05.sound_writeObj
#print axioms VmMem.C05.sound_store
#print axioms VmMem.C05.sound_refStore
#print axioms VmMem.C05.sound_arrStore
#print axioms VmMem.C05.sound_arrCopyFrom
#print axioms VmMem.C05.sound_sliceCopyFrom
#print axioms VmMem.C05.sound_copyToSlice
#print axioms VmMem.C05.sound_arrCopyToSlice
#print axioms VmMem.C05.sound_readVolatile
#print axioms VmMem.C05.Inv2_self
#print axioms VmMem.C05.Inv2_write
#print axioms VmMem.C05.stepH_preserves
#print axioms VmMem.C05.sound_history
#print axioms VmMem.C05.runH_reset_snap
#print axioms VmMem.C05.stepH_snap_fixed
#print axioms VmMem.C05.reset_cleans
#print axioms VmMem.C05.failed_fd_read_marks_all
#print axioms VmMem.C05.write_ok
#print axioms VmMem.C05.write_no_panic
#print axioms VmMem.C05.ex_two_byte_write
