/-
  VmMem.Props.C03 — `Bytes<GuestAddress>` over a well-formed guest memory, specified against
  the flat sparse byte array `flat m : Nat → Option UInt8`.

  Vocabulary (VmMem.Lemmas.FlatLemmas; `runLen` and the rules for the `try_access` loop in VmMem.Lemmas.LoopLemmas)
    * `GWF m`          : layout `WF` + every region's container sane (`BmInv`, fits 2^64)
    * `flat m a`       : byte at guest address `a` (`none` in a hole)
    * `runLen m a cap` : longest run of consecutively mapped addresses from `a`, capped at `cap`
    * `SameLayout m m'`: starts / lengths / ids / host bases unchanged
    * `overlay fl a d` : `fl` with `d` laid over `[a, a + d.length)`: what a store does to the flat bytes

  Remarks on hypotheses.  `buf.length < U` / `len < U` : a Rust slice length is a `usize`.
  Under `WF` it is in fact not needed for the result (a run of mapped addresses is shorter
  than 2^64), but the loop's `total.checked_add(len)` is discharged with it.
-/
import VmMem.Lemmas.FlatLemmas
import VmMem.Props.C02
import VmMem.Props.C18g
namespace VmMem
namespace C03
open GuestLemmas DataLemmas FlatLemmas

/-! ## 1. write -/

/-- `write(buf, addr)` for a non-empty buffer: `InvalidGuestAddress(addr)` (memory untouched)
    iff the first byte is unmapped; otherwise `Ok(k)` with `k` the run length (≥ 1), the first
    `k` bytes of `buf` land — in order — at the guest addresses `addr .. addr + k` (each in the
    region / offset owning that address, across region boundaries), no other byte changes, and
    layout and well-formedness are kept. -/
theorem write_flat (m : GMem) (h : GWF m) (buf : List UInt8) (hb : buf ≠ []) (hl : buf.length < U)
    (addr : Nat) :
    (¬ mapped m addr → m.write buf addr = (m, .err (.invalidGuestAddress addr))) ∧
    (mapped m addr →
      ∃ m', m.write buf addr = (m', .ok (runLen m addr buf.length)) ∧
        0 < runLen m addr buf.length ∧ SameLayout m m' ∧ GWF m' ∧
        ∀ a, flat m' a =
          if addr ≤ a ∧ a < addr + runLen m addr buf.length then buf[a - addr]? else flat m a) := by
  have hpos : 0 < buf.length := List.length_pos_iff.2 hb
  obtain ⟨m', hres, hz, hsl, hg, hfl⟩ := loop_write buf hl addr m addr 0 h hpos
  simp only [Nat.sub_zero, Nat.zero_add] at hres hz hfl
  rw [write_eq_loop m hb, hres]
  constructor
  · intro hun
    have h0 := runLen_unmapped hun buf.length
    rw [if_pos ⟨h0, trivial⟩, hz h0]
  · intro hm
    have hk := runLen_pos hm hpos
    refine ⟨m', ?_, hk, hsl, hg, hfl⟩
    rw [if_neg (by omega)]

theorem write_result (m : GMem) (h : GWF m) (buf : List UInt8) (hb : buf ≠ []) (hl : buf.length < U)
    (addr : Nat) :
    (m.write buf addr).2 =
      if mapped m addr then .ok (runLen m addr buf.length) else .err (.invalidGuestAddress addr) := by
  obtain ⟨h1, h2⟩ := write_flat m h buf hb hl addr
  by_cases hm : mapped m addr
  · obtain ⟨m', hw, _⟩ := h2 hm
    rw [hw, if_pos hm]
  · rw [h1 hm, if_neg hm]

/-- it fails with an invalid-address error only when the first byte is unmapped; never a panic -/
theorem write_err_iff (m : GMem) (h : GWF m) (buf : List UInt8) (hb : buf ≠ []) (hl : buf.length < U)
    (addr : Nat) :
    ((m.write buf addr).2 = .err (.invalidGuestAddress addr) ↔ ¬ mapped m addr) ∧
    (∀ e, (m.write buf addr).2 = .err e → e = .invalidGuestAddress addr) ∧
    (m.write buf addr).2 ≠ .panic := by
  rw [write_result m h buf hb hl addr]
  by_cases hm : mapped m addr
  · rw [if_pos hm]
    exact ⟨by simp [hm], (by intro e he; cases he), by simp⟩
  · rw [if_neg hm]
    exact ⟨by simp [hm], (by intro e he; cases he; rfl), by simp⟩

/-! ## 2. read -/

/-- `read(buf, addr)` for `len > 0`: `InvalidGuestAddress(addr)` iff the first byte is unmapped;
    otherwise the `runLen` bytes of the run, in address order. -/
theorem read_flat (m : GMem) (h : GWF m) (len : Nat) (hpos : 0 < len) (hl : len < U) (addr : Nat) :
    (¬ mapped m addr → m.read len addr = .err (.invalidGuestAddress addr)) ∧
    (mapped m addr →
      ∃ d, m.read len addr = .ok d ∧ d.length = runLen m addr len ∧ 0 < d.length ∧
        ∀ i, i < d.length → d[i]? = flat m (addr + i)) := by
  obtain ⟨d, hres, hdl, hd⟩ := loop_read h hl addr [] addr 0 hpos
  simp only [Nat.sub_zero, Nat.zero_add, List.nil_append] at hres hdl
  rw [read_eq_loop m hpos, hres]
  constructor
  · intro hun
    have h0 := runLen_unmapped hun len
    rw [if_pos ⟨h0, trivial⟩]
  · intro hm
    have hk := runLen_pos hm hpos
    refine ⟨d, ?_, hdl, by omega, hd⟩
    rw [if_neg (by omega)]

theorem read_err_iff (m : GMem) (h : GWF m) (len : Nat) (hpos : 0 < len) (hl : len < U) (addr : Nat) :
    (m.read len addr = .err (.invalidGuestAddress addr) ↔ ¬ mapped m addr) ∧
    (∀ e, m.read len addr = .err e → e = .invalidGuestAddress addr) ∧
    m.read len addr ≠ .panic := by
  obtain ⟨h1, h2⟩ := read_flat m h len hpos hl addr
  by_cases hm : mapped m addr
  · obtain ⟨d, hd, _⟩ := h2 hm
    rw [hd]
    exact ⟨by simp [hm], (by intro e he; cases he), by simp⟩
  · rw [h1 hm]
    exact ⟨by simp [hm], (by intro e he; cases he; rfl), by simp⟩

/-! ## 3. the all-or-error forms -/

/-- `write_slice`: `Ok(())` iff the whole range is one run of mapped addresses; otherwise the
    prefix of `runLen` bytes IS stored and `PartialBuffer { expected, completed = runLen }` is
    returned — or `InvalidGuestAddress(addr)` with the memory untouched when `addr` is unmapped. -/
theorem writeSlice_flat (m : GMem) (h : GWF m) (buf : List UInt8) (hb : buf ≠ [])
    (hl : buf.length < U) (addr : Nat) :
    (¬ mapped m addr → m.writeSlice buf addr = (m, .err (.invalidGuestAddress addr))) ∧
    (mapped m addr →
      ∃ m', m.writeSlice buf addr =
          (m', if runLen m addr buf.length = buf.length then .ok ()
               else .err (.partialBuffer buf.length (runLen m addr buf.length))) ∧
        SameLayout m m' ∧ GWF m' ∧
        ∀ a, flat m' a =
          if addr ≤ a ∧ a < addr + runLen m addr buf.length then buf[a - addr]? else flat m a) := by
  obtain ⟨h1, h2⟩ := write_flat m h buf hb hl addr
  unfold GMem.writeSlice
  constructor
  · intro hun
    rw [h1 hun]
  · intro hm
    obtain ⟨m', hw, _, hsl, hg, hfl⟩ := h2 hm
    refine ⟨m', ?_, hsl, hg, hfl⟩
    rw [hw]
    by_cases hk : runLen m addr buf.length = buf.length
    · simp [hk]
    · simp [hk]

theorem writeSlice_ok_iff (m : GMem) (h : GWF m) (buf : List UInt8) (hb : buf ≠ [])
    (hl : buf.length < U) (addr : Nat) :
    ((m.writeSlice buf addr).2 = .ok () ↔ runLen m addr buf.length = buf.length) ∧
    ((m.writeSlice buf addr).2 = .ok () ↔ ∀ i, i < buf.length → mapped m (addr + i)) := by
  obtain ⟨h1, h2⟩ := writeSlice_flat m h buf hb hl addr
  have key : (m.writeSlice buf addr).2 = .ok () ↔ runLen m addr buf.length = buf.length := by
    by_cases hm : mapped m addr
    · obtain ⟨m', hw, _⟩ := h2 hm
      rw [hw]
      simp
    · rw [h1 hm, runLen_unmapped hm]
      exact ⟨nofun, fun e => absurd e.symm (mt List.length_eq_zero_iff.1 hb)⟩
  exact ⟨key, key.trans (runLen_full_iff m addr buf.length)⟩

/-- `read_slice`: the whole range or an error saying how much was available -/
theorem readSlice_flat (m : GMem) (h : GWF m) (len : Nat) (hpos : 0 < len) (hl : len < U)
    (addr : Nat) :
    (¬ mapped m addr → m.readSlice len addr = .err (.invalidGuestAddress addr)) ∧
    (mapped m addr → runLen m addr len = len →
      ∃ d, m.readSlice len addr = .ok d ∧ d.length = len ∧ ∀ i, i < len → d[i]? = flat m (addr + i)) ∧
    (mapped m addr → runLen m addr len ≠ len →
      m.readSlice len addr = .err (.partialBuffer len (runLen m addr len))) := by
  obtain ⟨h1, h2⟩ := read_flat m h len hpos hl addr
  unfold GMem.readSlice
  refine ⟨?_, ?_, ?_⟩
  · intro hun
    rw [h1 hun]; rfl
  · intro hm hk
    obtain ⟨d, hd, hdl, _, hdf⟩ := h2 hm
    rw [hk] at hdl
    refine ⟨d, ?_, hdl, fun i hi => hdf i (hdl.symm ▸ hi)⟩
    rw [hd, Res.bind_ok, if_neg (fun hne => hne hdl)]
    rfl
  · intro hm hk
    obtain ⟨d, hd, hdl, _, _⟩ := h2 hm
    rw [hd, Res.bind_ok, if_pos (hdl ▸ hk), hdl]

theorem readSlice_ok_iff (m : GMem) (h : GWF m) (len : Nat) (hpos : 0 < len) (hl : len < U)
    (addr : Nat) :
    (m.readSlice len addr).isOk = true ↔ ∀ i, i < len → mapped m (addr + i) := by
  rw [← runLen_full_iff]
  obtain ⟨h1, h2, h3⟩ := readSlice_flat m h len hpos hl addr
  by_cases hm : mapped m addr
  · by_cases hk : runLen m addr len = len
    · obtain ⟨d, hd, _⟩ := h2 hm hk
      rw [hd]; simp [Res.isOk, hk]
    · rw [h3 hm hk]; simp [Res.isOk, hk]
  · rw [h1 hm, runLen_unmapped hm]
    simp [Res.isOk]; omega

theorem writeObj_eq (m : GMem) (val : List UInt8) (addr : Nat) :
    m.writeObj val addr = m.writeSlice val addr := rfl
theorem readObj_eq (m : GMem) (t : Ty) (addr : Nat) :
    m.readObj t addr = m.readSlice t.size addr := rfl

/-! ## 4. what was written is what is read back, through any route

  Every reading route is a function of `flat` (`read_eq_flatRead`, `readSlice_of_mapped`,
  `region_read_flat`, `flat_via_host`, `load_flat` in §5); every writing route has a flat
  equation.  The corollaries below spell out the combinations the property names. -/

theorem read_eq_flatRead (m : GMem) (h : GWF m) (len : Nat) (hpos : 0 < len) (hl : len < U)
    (addr : Nat) (hm : mapped m addr) :
    m.read len addr = .ok (flatRead (flat m) addr (runLen m addr len)) := by
  obtain ⟨d, hd, hdl, _, hdf⟩ := (read_flat m h len hpos hl addr).2 hm
  rw [hd, eq_flatRead hdl (fun i hi => hdf i (by omega))]

/-- reads are deterministic functions of `flat`: two well-formed memories with the same
    layout-mappedness and the same flat bytes on the run return the same data -/
theorem read_congr (m m' : GMem) (h : GWF m) (h' : GWF m') (len : Nat) (hpos : 0 < len)
    (hl : len < U) (addr : Nat) (hmap : ∀ a, mapped m' a ↔ mapped m a)
    (hflat : ∀ i, i < runLen m addr len → flat m' (addr + i) = flat m (addr + i)) :
    m'.read len addr = m.read len addr := by
  by_cases hm : mapped m addr
  · rw [read_eq_flatRead m h len hpos hl addr hm, read_eq_flatRead m' h' len hpos hl addr ((hmap addr).2 hm),
      runLen_congr hmap, flatRead_congr hflat]
  · rw [(read_flat m h len hpos hl addr).1 hm, (read_flat m' h' len hpos hl addr).1 (mt (hmap addr).1 hm)]

/-- a fully mapped range: `read`, `read_slice` and `read_obj` all return its flat read-out -/
theorem readSlice_of_mapped (m : GMem) (h : GWF m) (len : Nat) (hpos : 0 < len) (hl : len < U)
    (addr : Nat) (hrun : ∀ i, i < len → mapped m (addr + i)) :
    m.read len addr = .ok (flatRead (flat m) addr len) ∧
    m.readSlice len addr = .ok (flatRead (flat m) addr len) ∧
    ∀ t : Ty, t.size = len → m.readObj t addr = .ok (flatRead (flat m) addr len) := by
  have hm : mapped m addr := by simpa using hrun 0 hpos
  have hk : runLen m addr len = len := (runLen_full_iff m addr len).2 hrun
  have hr := read_eq_flatRead m h len hpos hl addr hm
  rw [hk] at hr
  have hs : m.readSlice len addr = .ok (flatRead (flat m) addr len) := by
    unfold GMem.readSlice
    rw [hr, Res.bind_ok, if_neg (by rw [flatRead_length]; omega)]
    rfl
  refine ⟨hr, hs, ?_⟩
  intro t ht
  unfold GMem.readObj
  rw [ht]; exact hs

/-- region-level route: `Region::read` on the region owning `a`, at the region offset of `a`,
    returns the flat bytes from `a` up to the end of that region -/
theorem region_read_flat (m : GMem) (h : GWF m) {i : Nat} {r : Region} (hi : m[i]? = some r)
    (a : Nat) (hin : r.start ≤ a ∧ a < r.start + r.len) (n : Nat) (hn : 0 < n) :
    r.read n (a - r.start) = .ok (flatRead (flat m) a (min n (r.start + r.len - a))) := by
  rw [Region.read_ok r (h.regWF hi) n hn (a - r.start) (Nat.sub_lt_left_of_lt_add hin.1 hin.2),
    ← Nat.add_sub_add_left (k := r.start) (n := r.len) (m := a - r.start), Nat.add_sub_cancel' hin.1,
    region_flatRead h.1 hi hin.1 (C04.cut_fits hin.2 n)]

/-- host-pointer route: the host address `get_host_address(a)` designates, inside the owning
    region's container, exactly the byte `flat m a` -/
theorem flat_via_host (m : GMem) (h : GWF m) (a : Nat) (hm : mapped m a) :
    ∃ (i : Nat) (r : Region) (p : Nat), m[i]? = some r ∧ r.start ≤ a ∧ a < r.start + r.len ∧
      m.getHostAddress a = .ok p ∧ p = r.mem.base + (a - r.start) ∧
      flat m a = r.mem.bytes[p - r.mem.base]? ∧ (flat m a).isSome = true ∧
      r.mem.readAt p 1 = .ok (flat m a).toList := by
  obtain ⟨i, r, hi, hin⟩ := (mapped_iff_getElem? m a).1 hm
  have hfl := flat_of_getElem? h.1 hi hin
  have hp : r.mem.base + (a - r.start) - r.mem.base = a - r.start := Nat.add_sub_cancel_left _ _
  have hlt : a - r.start < r.mem.bytes.length := Nat.sub_lt_left_of_lt_add hin.1 hin.2
  refine ⟨i, r, _, hi, hin.1, hin.2, C02t.getHostAddress_of_getElem? h.1.toWFT hi hin, rfl, ?_, ?_, ?_⟩
  · rw [hp]; exact hfl
  · exact (flat_isSome_iff h.1 a).2 hm
  · rw [readAt_ok _ _ _ (by omega), hp, hfl, List.drop_eq_getElem_cons hlt,
      List.getElem?_eq_getElem hlt]
    rfl

/-- everything a successful `write` establishes -/
structure Wrote (m m' : GMem) (buf : List UInt8) (addr k : Nat) : Prop where
  k_eq : k = runLen m addr buf.length
  pos : 0 < k
  le : k ≤ buf.length
  same : SameLayout m m'
  gwf : GWF m'
  flat_eq : ∀ a, flat m' a = if addr ≤ a ∧ a < addr + k then buf[a - addr]? else flat m a
  run_mapped : ∀ i, i < k → mapped m' (addr + i)

theorem write_post (m : GMem) (h : GWF m) (buf : List UInt8) (hb : buf ≠ []) (hl : buf.length < U)
    (addr : Nat) {m' : GMem} {k : Nat} (hw : m.write buf addr = (m', .ok k)) :
    Wrote m m' buf addr k := by
  obtain ⟨h1, h2⟩ := write_flat m h buf hb hl addr
  by_cases hm : mapped m addr
  · obtain ⟨m'', hw', hpos, hsl, hg, hfl⟩ := h2 hm
    cases hw.symm.trans hw'
    exact ⟨rfl, hpos, runLen_le m addr buf.length, hsl, hg, hfl,
      fun i hi => (hsl.mapped _).2 (runLen_mapped m addr buf.length i hi)⟩
  · cases hw.symm.trans (h1 hm)

theorem Wrote.readout {m m' : GMem} {buf : List UInt8} {addr k : Nat} (w : Wrote m m' buf addr k)
    (a n : Nat) (ha : addr ≤ a) (hfit : a + n ≤ addr + k) :
    flatRead (flat m') a n = (buf.drop (a - addr)).take n := by
  obtain ⟨o, rfl⟩ := Nat.exists_eq_add_of_le ha
  have hon : o + n ≤ k := Nat.le_of_add_le_add_left (Nat.add_assoc _ _ _ ▸ hfit)
  rw [Nat.add_sub_cancel_left]
  symm
  apply eq_flatRead (take_drop_length _ _ _ (Nat.le_trans hon w.le))
  intro i hi
  have hoi : o + i < k := Nat.lt_of_lt_of_le (Nat.add_lt_add_left hi o) hon
  rw [take_drop_getElem?, if_pos hi, Nat.add_assoc, w.flat_eq,
    if_pos ⟨Nat.le_add_right _ _, Nat.add_lt_add_left hoi _⟩, Nat.add_sub_cancel_left]

/-- sub-ranges of what was written, through `read` / `read_slice` / `read_obj` -/
theorem write_read_sub (m : GMem) (h : GWF m) (buf : List UInt8) (hb : buf ≠ [])
    (hl : buf.length < U) (addr : Nat) {m' : GMem} {k : Nat} (hw : m.write buf addr = (m', .ok k))
    (a n : Nat) (hn : 0 < n) (ha : addr ≤ a) (hfit : a + n ≤ addr + k) :
    m'.read n a = .ok ((buf.drop (a - addr)).take n) ∧
    m'.readSlice n a = .ok ((buf.drop (a - addr)).take n) ∧
    ∀ t : Ty, t.size = n → m'.readObj t a = .ok ((buf.drop (a - addr)).take n) := by
  have w := write_post m h buf hb hl addr hw
  rw [← w.readout a n ha hfit]
  obtain ⟨o, rfl⟩ := Nat.exists_eq_add_of_le ha
  have hon : o + n ≤ k := Nat.le_of_add_le_add_left (Nat.add_assoc _ _ _ ▸ hfit)
  exact readSlice_of_mapped m' w.gwf n hn
    (Nat.lt_of_le_of_lt (Nat.le_trans (Nat.le_trans (Nat.le_add_left n o) hon) w.le) hl) _
    fun i hi => Nat.add_assoc _ _ _ ▸ w.run_mapped (o + i) (Nat.lt_of_lt_of_le (Nat.add_lt_add_left hi o) hon)

/-- `write` then `read` at the same address: the same count, the same bytes — whether the
    reader asks for `k` bytes or for the whole buffer length -/
theorem write_read (m : GMem) (h : GWF m) (buf : List UInt8) (hb : buf ≠ []) (hl : buf.length < U)
    (addr : Nat) {m' : GMem} {k : Nat} (hw : m.write buf addr = (m', .ok k)) :
    m'.read k addr = .ok (buf.take k) ∧
    m'.readSlice k addr = .ok (buf.take k) ∧
    m'.read buf.length addr = .ok (buf.take k) := by
  have w := write_post m h buf hb hl addr hw
  obtain ⟨r1, r2, _⟩ := write_read_sub m h buf hb hl addr hw addr k w.pos (Nat.le_refl _) (Nat.le_refl _)
  rw [Nat.sub_self, List.drop_zero] at r1 r2
  refine ⟨r1, r2, ?_⟩
  have hm' : mapped m' addr := by simpa using w.run_mapped 0 w.pos
  rw [read_eq_flatRead m' w.gwf buf.length (Nat.lt_of_lt_of_le w.pos w.le) hl addr hm',
    w.same.runLen, ← w.k_eq,
    w.readout addr k (Nat.le_refl _) (Nat.le_refl _), Nat.sub_self, List.drop_zero]

/-- … and through the region-level route: `Region::read` on the region of the new memory
    owning `a`, for a range that stays inside that region and inside what was written -/
theorem write_region_read (m : GMem) (h : GWF m) (buf : List UInt8) (hb : buf ≠ [])
    (hl : buf.length < U) (addr : Nat) {m' : GMem} {k : Nat} (hw : m.write buf addr = (m', .ok k))
    {i : Nat} {r' : Region} (hi : m'[i]? = some r') (a n : Nat) (hn : 0 < n) (ha : addr ≤ a)
    (hin : r'.start ≤ a) (hfit : a + n ≤ addr + k) (hreg : a + n ≤ r'.start + r'.len) :
    r'.read n (a - r'.start) = .ok ((buf.drop (a - addr)).take n) := by
  have w := write_post m h buf hb hl addr hw
  rw [region_read_flat m' w.gwf hi a ⟨hin, Nat.lt_of_lt_of_le (Nat.lt_add_of_pos_right hn) hreg⟩ n hn,
    Nat.min_eq_left (Nat.le_sub_of_add_le' hreg), w.readout a n ha hfit]

/-- … and through host pointers: every stored byte sits at its host address -/
theorem write_host (m : GMem) (h : GWF m) (buf : List UInt8) (hb : buf ≠ [])
    (hl : buf.length < U) (addr : Nat) {m' : GMem} {k : Nat} (hw : m.write buf addr = (m', .ok k))
    (j : Nat) (hj : j < k) :
    ∃ (i : Nat) (r' : Region) (p : Nat), m'[i]? = some r' ∧ m'.getHostAddress (addr + j) = .ok p ∧
      m.getHostAddress (addr + j) = .ok p ∧ r'.mem.readAt p 1 = .ok [buf[j]'(by
        have := (write_post m h buf hb hl addr hw).le; omega)] := by
  have w := write_post m h buf hb hl addr hw
  obtain ⟨i, r', p, hi, h1, h2, hp, hpe, _, _, hrd⟩ := flat_via_host m' w.gwf (addr + j) (w.run_mapped j hj)
  obtain ⟨r, hr, hkey⟩ := w.same.symm.getElem? hi
  obtain ⟨k1, k2, _, k4⟩ := key_eq hkey
  refine ⟨i, r', p, hi, hp, ?_, ?_⟩
  · rw [C02t.getHostAddress_of_getElem? h.1.toWFT hr (by rw [k1, k2]; exact ⟨h1, h2⟩), hpe, k1, k4]
  · rw [hrd, w.flat_eq, if_pos ⟨Nat.le_add_right _ _, Nat.add_lt_add_left hj _⟩,
      Nat.add_sub_cancel_left, List.getElem?_eq_getElem (Nat.lt_of_lt_of_le hj w.le)]
    rfl

/-! ## 5. store / load -/

/-- an object of type `t` can be accessed atomically at `addr`: some region owns `addr` at
    offset `o`, the object fits that region (`o + size ≤ len`), and its host address is aligned -/
def ObjAt (m : GMem) (t : Ty) (addr : Nat) : Prop :=
  ∃ r ∈ m, r.start ≤ addr ∧ addr < r.start + r.len ∧ (addr - r.start) + t.size ≤ r.len ∧
    (r.mem.base + (addr - r.start)) % t.align = 0

instance (m : GMem) (t : Ty) (addr : Nat) : Decidable (ObjAt m t addr) := by
  unfold ObjAt; infer_instance

theorem ObjAt.mapped {m : GMem} {t : Ty} {addr : Nat} (h : ObjAt m t addr) : mapped m addr := by
  obtain ⟨r, hr, h1, h2, _⟩ := h
  exact ⟨r, hr, h1, h2⟩

theorem ObjAt_congr {m m' : GMem} (h : SameLayout m m') (t : Ty) (addr : Nat) :
    ObjAt m' t addr ↔ ObjAt m t addr :=
  h.exists_congr (fun k => k.1 ≤ addr ∧ addr < k.1 + k.2.1 ∧ (addr - k.1) + t.size ≤ k.2.1 ∧
    (k.2.2.2 + (addr - k.1)) % t.align = 0)

/-- in a well-formed memory the owner is unique, so `ObjAt` is a statement about THE owner -/
theorem ObjAt_of_owner {m : GMem} (h : WF m) {t : Ty} {addr i : Nat} {r : Region}
    (hi : m[i]? = some r) (hin : r.start ≤ addr ∧ addr < r.start + r.len) :
    ObjAt m t addr ↔
      (addr - r.start) + t.size ≤ r.len ∧ (r.mem.base + (addr - r.start)) % t.align = 0 := by
  constructor
  · rintro ⟨s, hs, h1, h2, h3, h4⟩
    obtain ⟨j, hj⟩ := List.getElem?_of_mem hs
    have := region_unique h.toWFT hi hj hin ⟨h1, h2⟩
    subst this
    rw [hi] at hj; cases hj
    exact ⟨h3, h4⟩
  · rintro ⟨h3, h4⟩
    exact ⟨r, List.mem_of_getElem? hi, hin.1, hin.2, h3, h4⟩

/-- `store`: `Ok` exactly at an `ObjAt` address — then the first `size_of::<T>()` bytes of the
    value land at `addr ..`, nothing else changes; `InvalidGuestAddress(addr)` iff unmapped;
    otherwise (crosses the end of the owning region, or misaligned) `InvalidBackendAddress`. -/
theorem store_flat (m : GMem) (h : GWF m) (val : List UInt8) (t : Ty) (addr : Nat) :
    (¬ mapped m addr → m.store val t addr = .err (.invalidGuestAddress addr)) ∧
    (mapped m addr → ¬ ObjAt m t addr → m.store val t addr = .err .invalidBackendAddress) ∧
    (ObjAt m t addr →
      ∃ m', m.store val t addr = .ok m' ∧ SameLayout m m' ∧ GWF m' ∧
        ∀ a, flat m' a =
          if addr ≤ a ∧ a < addr + (val.take t.size).length then (val.take t.size)[a - addr]?
          else flat m a) := by
  rcases mapped_or_not m addr with ⟨i, r, hi, hin⟩ | hun
  · have hm : mapped m addr := mapped_of_getElem? hi hin
    have hs : m.store val t addr =
        (r.store val t (addr - r.start)).bind fun r' => pure (m.setRegion i r') := by
      unfold GMem.store
      rw [toRegionAddr_of_getElem? h.1.toWFT hi hin]
      simp only [Res.bind_ok, hi]
      rfl
    refine ⟨fun hun => absurd hm hun, fun _ hno => ?_, fun hob => ?_⟩
    · rw [hs, Region.store_err r (h.regWF hi) val t _ (fun x => hno ((ObjAt_of_owner h.1 hi hin).2 x))]
      rfl
    · obtain ⟨hfit, hal⟩ := (ObjAt_of_owner h.1 hi hin).1 hob
      obtain ⟨mem', hok, hst⟩ := Region.store_ok r (h.regWF hi) val t _ hfit hal
      have hkey := key_with_mem r hst.length_eq hst.base
      refine ⟨m.set i { r with mem := mem' }, by rw [hs, hok]; rfl, SameLayout.set hi hkey,
        h.set hi hkey hst.inv, fun a => ?_⟩
      rw [flat_stored h.1 hi hst (Nat.le_trans (Nat.add_le_add_left (List.length_take_le _ _) _) hfit),
        Nat.add_sub_cancel' hin.1]
  · refine ⟨fun _ => ?_, fun hm => absurd hm hun, fun hob => absurd hob.mapped hun⟩
    unfold GMem.store
    rw [toRegionAddr_of_unmapped h.1.toWFT hun]
    rfl

theorem store_ok_iff (m : GMem) (h : GWF m) (val : List UInt8) (t : Ty) (addr : Nat) :
    ((m.store val t addr).isOk = true ↔ ObjAt m t addr) ∧
    (m.store val t addr = .err (.invalidGuestAddress addr) ↔ ¬ mapped m addr) ∧
    m.store val t addr ≠ .panic := by
  obtain ⟨h1, h2, h3⟩ := store_flat m h val t addr
  by_cases hob : ObjAt m t addr
  · obtain ⟨m', hok, _⟩ := h3 hob
    rw [hok]
    exact ⟨by simp [Res.isOk, hob], by simp [hob.mapped], by simp⟩
  · by_cases hm : mapped m addr
    · rw [h2 hm hob]
      exact ⟨by simp [Res.isOk, hob], by simp [hm], by simp⟩
    · rw [h1 hm]
      exact ⟨by simp [Res.isOk, hob], by simp [hm], by simp⟩

/-- `load`: the flat bytes of the object -/
theorem load_flat (m : GMem) (h : GWF m) (t : Ty) (addr : Nat) :
    (¬ mapped m addr → m.load t addr = .err (.invalidGuestAddress addr)) ∧
    (mapped m addr → ¬ ObjAt m t addr → m.load t addr = .err .invalidBackendAddress) ∧
    (ObjAt m t addr → m.load t addr = .ok (flatRead (flat m) addr t.size)) := by
  rcases mapped_or_not m addr with ⟨i, r, hi, hin⟩ | hun
  · have hm : mapped m addr := mapped_of_getElem? hi hin
    have hs : m.load t addr = r.load t (addr - r.start) := by
      unfold GMem.load
      rw [toRegionAddr_of_getElem? h.1.toWFT hi hin]
      simp only [Res.bind_ok, hi]
    refine ⟨fun hun => absurd hm hun, fun _ hno => ?_, fun hob => ?_⟩
    · rw [hs, Region.load_err r (h.regWF hi) t _ (fun x => hno ((ObjAt_of_owner h.1 hi hin).2 x))]
    · obtain ⟨hfit, hal⟩ := (ObjAt_of_owner h.1 hi hin).1 hob
      rw [hs, Region.load_ok r (h.regWF hi) t _ hfit hal,
        region_flatRead h.1 hi hin.1 (LoopLemmas.add_le_end hin (Nat.le_sub_of_add_le' hfit))]
  · refine ⟨fun _ => ?_, fun hm => absurd hm hun, fun hob => absurd hob.mapped hun⟩
    unfold GMem.load
    rw [toRegionAddr_of_unmapped h.1.toWFT hun]
    rfl

/-- `store` then `load` / `read_obj` / `read`: the stored value -/
theorem store_load (m : GMem) (h : GWF m) (val : List UInt8) (t : Ty) (addr : Nat)
    (hval : t.size ≤ val.length) {m' : GMem} (hs : m.store val t addr = .ok m') :
    m'.load t addr = .ok (val.take t.size) ∧
    (0 < t.size → t.size < U → m'.readObj t addr = .ok (val.take t.size) ∧
      m'.read t.size addr = .ok (val.take t.size)) := by
  obtain ⟨_, _, h3⟩ := store_flat m h val t addr
  have hob : ObjAt m t addr := ((store_ok_iff m h val t addr).1).1 (by rw [hs]; rfl)
  obtain ⟨m'', hok, hsl, hg, hfl⟩ := h3 hob
  rw [hs] at hok; cases hok
  have hdl : (val.take t.size).length = t.size := List.length_take_of_le hval
  have hro : val.take t.size = flatRead (flat m') addr t.size :=
    eq_flatRead hdl fun i hi => by
      rw [hfl, if_pos ⟨Nat.le_add_right _ _, Nat.add_lt_add_left (hdl.symm ▸ hi) _⟩,
        Nat.add_sub_cancel_left]
  have hob' : ObjAt m' t addr := (ObjAt_congr hsl t addr).2 hob
  refine ⟨?_, ?_⟩
  · rw [(load_flat m' hg t addr).2.2 hob', ← hro]
  · intro hpos hU
    obtain ⟨r, hr, h1, h2, h4, _⟩ := hob'
    have hmp : ∀ i, i < t.size → mapped m' (addr + i) :=
      fun i hi => ⟨r, hr, Nat.le_trans h1 (Nat.le_add_right _ _), Nat.lt_of_lt_of_le (Nat.add_lt_add_left hi addr)
        (LoopLemmas.add_le_end ⟨h1, h2⟩ (Nat.le_sub_of_add_le' h4))⟩
    obtain ⟨r1, _, r3⟩ := readSlice_of_mapped m' hg t.size hpos hU addr hmp
    rw [← hro] at r1 r3
    exact ⟨r3 t rfl, r1⟩

/-! ## 6. under `WF` the cursor never overflows: the stop at `GuestAddress(0)` is dead -/

/-- pointwise form: at a mapped `cur` of a `WF` layout, for every chunk length `n` up to the rest of the
    region, `cur.overflowing_add(n)` is `(cur + n, false)` with `cur + n < 2^64`: the loop goes on through
    its `(x, false)` arm, never reaches `(GuestAddress(0), true) => break` or `GuestAddressOverflow` -/
theorem no_wrap (m : GMem) (h : WF m) (cur count total : Nat) {i : Nat} {r : Region}
    (hi : m[i]? = some r) (hin : r.start ≤ cur ∧ cur < r.start + r.len) (n : Nat)
    (hn : n ≤ min (r.len - (cur - r.start)) (count - total)) :
    (overflowingAdd cur n).2 = false ∧ (overflowingAdd cur n).1 = cur + n ∧ cur + n < U ∧
      (0 < n → (overflowingAdd cur n).1 ≠ 0) := by
  obtain ⟨he, hle, hU⟩ := no_wrap_step h hi hin (Nat.le_trans hn (Nat.min_le_left _ _))
  rw [he]
  exact ⟨rfl, rfl, Nat.lt_of_le_of_lt hle hU, fun hp => Nat.ne_of_gt (Nat.add_pos_right cur hp)⟩

/-- the loop without the `(GuestAddress(0), true) => break` arm: every overflow of
    `cur.overflowing_add(n)` is `GuestAddressOverflow` -/
def loopStrict {σ : Type} (f : GMem → σ → Nat → Nat → Nat → Nat → GMem × σ × Res Nat)
    (count addr : Nat) (m : GMem) (st : σ) (cur total : Nat) : GMem × σ × Res Nat :=
  match m.findRegion cur with
  | .panic => (m, st, .panic)
  | .err e => (m, st, .err e)
  | .ok none => if total = 0 then (m, st, .err (.invalidGuestAddress addr)) else (m, st, .ok total)
  | .ok (some idx) =>
    match m[idx]? with
    | none => (m, st, .panic)
    | some region =>
      match region.toRegionAddr cur with
      | none => (m, st, .panic)
      | some start =>
        if region.len < start ∨ count < total then (m, st, .panic)
        else
          let cap := region.len - start
          let len := min cap (count - total)
          match f m st total len start idx with
          | (m', st', .ok 0) => (m', st', .ok total)
          | (m', st', .ok (k + 1)) =>
            let n := k + 1
            if total + n < U then
              let x := total + n
              if x < count then
                let (c', ovf) := overflowingAdd cur n
                if ovf = false then loopStrict f count addr m' st' c' x
                else (m', st', .err .guestAddressOverflow)
              else if x = count then (m', st', .ok x)
              else (m', st', .err .callbackOutOfRange)
            else (m', st', .err .callbackOutOfRange)
          | (m', st', .err e) => (m', st', .err e)
          | (m', st', .panic) => (m', st', .panic)
termination_by count - total
decreasing_by omega

/-- a callback that, called the way the loop calls it at a mapped address (region index,
    region offset, `len = min (rest of region) (rest of count)`), keeps the invariant `P`
    (which entails `WF`) and never reports more than `len`; shown below of the callbacks of `write`,
    `read` and `check_range` -/
structure GoodCb {σ : Type} (P : GMem → Prop) (count : Nat)
    (f : GMem → σ → Nat → Nat → Nat → Nat → GMem × σ × Res Nat) : Prop where
  wf : ∀ m, P m → WF m
  step : ∀ (m : GMem) (st : σ) (total i cur : Nat) (r : Region), P m → m[i]? = some r →
    r.start ≤ cur → cur < r.start + r.len → total < count →
    P (f m st total (min (r.len - (cur - r.start)) (count - total)) (cur - r.start) i).1 ∧
    ∀ n, (f m st total (min (r.len - (cur - r.start)) (count - total)) (cur - r.start) i).2.2 = .ok n →
      n ≤ min (r.len - (cur - r.start)) (count - total)

/-- over a `WF` layout the loop never takes the stop at `GuestAddress(0)` —
    it computes exactly what the loop without that arm computes -/
theorem no_wrap_loop {σ : Type} (P : GMem → Prop)
    (f : GMem → σ → Nat → Nat → Nat → Nat → GMem × σ × Res Nat) (count addr : Nat)
    (hf : GoodCb P count f) :
    ∀ (n : Nat) (m : GMem) (st : σ) (cur total : Nat), P m → total < count → count - total = n →
      GMem.tryAccessLoop f count addr m st cur total = loopStrict f count addr m st cur total := by
  intro n
  induction n using Nat.strongRecOn with
  | _ n ih =>
    intro m st cur total hP ht hn
    have h := hf.wf m hP
    rw [GMem.tryAccessLoop, loopStrict]
    rcases mapped_or_not m cur with ⟨i, r, hi, hin⟩ | hun
    · rw [findRegion_of_getElem? h.toWFT hi hin]
      simp only [hi, Region.toRegionAddr_eq hin]
      by_cases hcond : r.len < cur - r.start ∨ count < total
      · rw [if_pos hcond, if_pos hcond]
      · rw [if_neg hcond, if_neg hcond]
        obtain ⟨hkeep, hbd⟩ := hf.step m st total i cur r hP hi hin.1 hin.2 ht
        rcases hfe : f m st total (min (r.len - (cur - r.start)) (count - total)) (cur - r.start) i
          with ⟨m1, st1, res⟩
        rw [hfe] at hkeep hbd
        cases res with
        | err e => rfl
        | panic => rfl
        | ok k =>
          cases k with
          | zero => rfl
          | succ k =>
            simp only
            by_cases hU : total + (k + 1) < U
            · rw [if_pos hU, if_pos hU]
              by_cases hlt : total + (k + 1) < count
              · rw [if_pos hlt, if_pos hlt]
                have hnw := (no_wrap_step h hi hin (Nat.le_trans (hbd (k + 1) rfl) (Nat.min_le_left _ _))).1
                simp only [hnw, if_true]
                exact ih _ (hn ▸ Nat.sub_lt_sub_left ht (Nat.lt_add_of_pos_right (Nat.succ_pos k))) m1 st1 _ _
                  hkeep hlt rfl
              · rw [if_neg hlt, if_neg hlt]
            · rw [if_neg hU, if_neg hU]
    · rw [findRegion_of_unmapped h.toWFT hun]

theorem trivCb_good (count : Nat) : GoodCb WF count trivCb :=
  ⟨fun _ h => h, fun m _ _ _ _ _ hP _ _ _ _ => ⟨hP, fun n hn => by cases hn; exact Nat.le_refl _⟩⟩

theorem wcb_good (buf : List UInt8) : GoodCb GWF buf.length (wcb buf) := by
  refine ⟨fun _ h => h.1, ?_⟩
  intro m st total i cur r hP hi h1 h2 ht
  obtain ⟨mem', hcb, hst⟩ := wcb_step hP buf hi ⟨h1, h2⟩ ht
    (n := min (r.len - (cur - r.start)) (buf.length - total)) rfl
    (min (r.len - (cur - r.start)) (buf.length - total))
  rw [hcb]
  exact ⟨hP.set hi (key_with_mem r hst.length_eq hst.base) hst.inv,
    fun n hn => by cases hn; exact Nat.le_refl _⟩

theorem rcb_good (len : Nat) : GoodCb GWF len (rcb len) := by
  refine ⟨fun _ h => h.1, ?_⟩
  intro m st total i cur r hP hi h1 h2 ht
  rw [rcb_step hP len st hi ⟨h1, h2⟩ ht (n := min (r.len - (cur - r.start)) (len - total)) rfl]
  exact ⟨hP, fun n hn => by cases hn; exact Nat.le_refl _⟩

/-- in particular `write` and `read` on a well-formed memory never use the wrap alternative -/
theorem write_read_no_wrap (m : GMem) (h : GWF m) (addr : Nat) :
    (∀ buf : List UInt8, buf ≠ [] →
      GMem.tryAccessLoop (wcb buf) buf.length addr m () addr 0 =
        loopStrict (wcb buf) buf.length addr m () addr 0) ∧
    (∀ (len : Nat) (acc : List UInt8), 0 < len →
      GMem.tryAccessLoop (rcb len) len addr m acc addr 0 =
        loopStrict (rcb len) len addr m acc addr 0) :=
  ⟨fun buf hb => no_wrap_loop GWF (wcb buf) buf.length addr (wcb_good buf) _ m () addr 0 h
      (List.length_pos_iff.2 hb) rfl,
   fun len acc hpos => no_wrap_loop GWF (rcb len) len addr (rcb_good len) _ m acc addr 0 h hpos rfl⟩

/-! ### outside `WF`: a region ending exactly at `2^64`

  No such region comes out of `GuestRegionMmap::new` (`Region.new` rejects `start + len ≥ 2^64`),
  only out of a custom `GuestMemoryRegion` implementation.  With one, and a region at 0, the loop
  before fix dfb8366 walked on from the top of the address space to address 0 (`wrap_before_fix`);
  the loop as it is stops at the last address (`loop_stops_at_top`, `no_wrap_after_fix`). -/

def wrapMem : GMem :=
  [ { start := 0, mem := { base := 0x1000, bytes := [1, 2, 3, 4], bm := none }, id := 1 },
    { start := 0xFFFF_FFFF_FFFF_FFFC, mem := { base := 0x2000, bytes := [5, 6, 7, 8], bm := none }, id := 2 } ]

example : ¬ WF wrapMem := by decide
example : Region.new 0xFFFF_FFFF_FFFF_FFFC { base := 0x2000, bytes := [5, 6, 7, 8], bm := none } = none := by
  decide

/-- the loop as it stood before fix dfb8366 (defect D9): the cursor was allowed to wrap to exactly 0 and the walk went on -/
def loopBeforeFix {σ : Type} (f : GMem → σ → Nat → Nat → Nat → Nat → GMem × σ × Res Nat)
    (count addr : Nat) (m : GMem) (st : σ) (cur total : Nat) : GMem × σ × Res Nat :=
  match m.findRegion cur with
  | .panic => (m, st, .panic)
  | .err e => (m, st, .err e)
  | .ok none => if total = 0 then (m, st, .err (.invalidGuestAddress addr)) else (m, st, .ok total)
  | .ok (some idx) =>
    match m[idx]? with
    | none => (m, st, .panic)
    | some region =>
      match region.toRegionAddr cur with
      | none => (m, st, .panic)
      | some start =>
        if region.len < start ∨ count < total then (m, st, .panic)
        else
          let cap := region.len - start
          let len := min cap (count - total)
          match f m st total len start idx with
          | (m', st', .ok 0) => (m', st', .ok total)
          | (m', st', .ok (k + 1)) =>
            let n := k + 1
            if total + n < U then
              let x := total + n
              if x < count then
                let (c', ovf) := overflowingAdd cur n
                if c' = 0 ∨ ovf = false then loopBeforeFix f count addr m' st' c' x
                else (m', st', .err .guestAddressOverflow)
              else if x = count then (m', st', .ok x)
              else (m', st', .err .callbackOutOfRange)
            else (m', st', .err .callbackOutOfRange)
          | (m', st', .err e) => (m', st', .err e)
          | (m', st', .panic) => (m', st', .panic)
termination_by count - total
decreasing_by omega

/-- D9, as found: four bytes from `2^64 - 2` were two at the top and then — through the `GuestAddress(0)` arm — two at 0 -/
theorem wrap_before_fix : loopBeforeFix trivCb 4 0xFFFF_FFFF_FFFF_FFFE wrapMem () 0xFFFF_FFFF_FFFF_FFFE 0 =
    (wrapMem, (), .ok 4) := by
  decide +kernel

/-- … whereas the loop without that arm reports `GuestAddressOverflow` -/
example : loopStrict trivCb 4 0xFFFF_FFFF_FFFF_FFFE wrapMem () 0xFFFF_FFFF_FFFF_FFFE 0 =
    (wrapMem, (), .err .guestAddressOverflow) := by
  decide +kernel

/-- **the walk never continues past the last address** (fix dfb8366), for *every* layout, well-formed or not: when the
    chunk just handled ends exactly at 2^64 and more bytes were asked for, the access returns what it has moved so far —
    it does not look up address 0 -/
theorem loop_stops_at_top {σ : Type} (f : GMem → σ → Nat → Nat → Nat → Nat → GMem × σ × Res Nat)
    (count addr : Nat) (m : GMem) (st : σ) (cur total idx start k : Nat) (region : Region) (m' : GMem) (st' : σ)
    (hfind : m.findRegion cur = .ok (some idx)) (hreg : m[idx]? = some region)
    (hstart : region.toRegionAddr cur = some start)
    (hpre : ¬ (region.len < start ∨ count < total))
    (hf : f m st total (min (region.len - start) (count - total)) start idx = (m', st', .ok (k + 1)))
    (hmore : total + (k + 1) < count) (hfit : total + (k + 1) < U)
    (htop : cur + (k + 1) = U) :
    GMem.tryAccessLoop f count addr m st cur total = (m', st', .ok (total + (k + 1))) := by
  rw [LoopLemmas.loop_at f count addr m st hfind hreg hstart hpre, hf]
  simp [LoopLemmas.next, hfit, hmore, LoopLemmas.overflowingAdd_top htop]

/-- after the fix the walk ends at the last address: two bytes, like at any other hole -/
theorem no_wrap_after_fix : GMem.tryAccessLoop trivCb 4 0xFFFF_FFFF_FFFF_FFFE wrapMem () 0xFFFF_FFFF_FFFF_FFFE 0 =
    (wrapMem, (), .ok 2) :=
  loop_stops_at_top trivCb 4 _ wrapMem () _ 0 1 2 1 _ _ _ (by decide) rfl (by decide) (by decide) rfl
    (by decide) (by decide) (by decide)

/-! ## 7. histories: the memory refines a spec-level machine over `flat`

  The spec-level state is the flat byte function; the layout `L` (any memory with the same
  layout as the one the history starts from) only supplies `mapped`, `runLen` and `ObjAt`. -/

inductive Op
  | write (buf : List UInt8) (addr : Nat)
  | writeSlice (buf : List UInt8) (addr : Nat)
  | writeObj (val : List UInt8) (addr : Nat)
  | store (val : List UInt8) (t : Ty) (addr : Nat)
  | read (len addr : Nat)
  | readSlice (len addr : Nat)
  | readObj (t : Ty) (addr : Nat)
  | load (t : Ty) (addr : Nat)

inductive Out
  | count (r : Res Nat)
  | unit (r : Res Unit)
  | data (r : Res (List UInt8))

/-- buffer lengths are `usize` values -/
def Op.Valid : Op → Prop
  | .write buf _ => buf.length < U
  | .writeSlice buf _ => buf.length < U
  | .writeObj buf _ => buf.length < U
  | .read len _ => len < U
  | .readSlice len _ => len < U
  | .readObj t _ => t.size < U
  | .store _ _ _ => True
  | .load _ _ => True

def voidRes {α : Type} : Res α → Res Unit
  | .ok _ => .ok ()
  | .err e => .err e
  | .panic => .panic

def memOr (m : GMem) : Res GMem → GMem
  | .ok m' => m'
  | _ => m

/-- one call on the model: the memory afterwards (an `Err` of `store` leaves it as it was; the
    `write` forms return the memory themselves) and the value returned -/
def step (m : GMem) : Op → GMem × Out
  | .write buf addr => ((m.write buf addr).1, .count (m.write buf addr).2)
  | .writeSlice buf addr => ((m.writeSlice buf addr).1, .unit (m.writeSlice buf addr).2)
  | .writeObj val addr => ((m.writeObj val addr).1, .unit (m.writeObj val addr).2)
  | .store val t addr => (memOr m (m.store val t addr), .unit (voidRes (m.store val t addr)))
  | .read len addr => (m, .data (m.read len addr))
  | .readSlice len addr => (m, .data (m.readSlice len addr))
  | .readObj t addr => (m, .data (m.readObj t addr))
  | .load t addr => (m, .data (m.load t addr))

def run (m : GMem) : List Op → GMem × List Out
  | [] => (m, [])
  | op :: ops => ((run (step m op).1 ops).1, (step m op).2 :: (run (step m op).1 ops).2)

/-- spec: the flat bytes after a call -/
def specFlat (L : GMem) (fl : Nat → Option UInt8) : Op → Nat → Option UInt8
  | .write buf addr => overlay fl addr (buf.take (runLen L addr buf.length))
  | .writeSlice buf addr => overlay fl addr (buf.take (runLen L addr buf.length))
  | .writeObj buf addr => overlay fl addr (buf.take (runLen L addr buf.length))
  | .store val t addr => if ObjAt L t addr then overlay fl addr (val.take t.size) else fl
  | .read _ _ => fl
  | .readSlice _ _ => fl
  | .readObj _ _ => fl
  | .load _ _ => fl

def specWriteSlice (L : GMem) (buf : List UInt8) (addr : Nat) : Res Unit :=
  if buf = [] then .ok ()
  else if mapped L addr then
    (if runLen L addr buf.length = buf.length then .ok ()
     else .err (.partialBuffer buf.length (runLen L addr buf.length)))
  else .err (.invalidGuestAddress addr)

def specReadSlice (L : GMem) (fl : Nat → Option UInt8) (len addr : Nat) : Res (List UInt8) :=
  if len = 0 then .ok []
  else if mapped L addr then
    (if runLen L addr len = len then .ok (flatRead fl addr len)
     else .err (.partialBuffer len (runLen L addr len)))
  else .err (.invalidGuestAddress addr)

/-- spec: the value a call returns -/
def specOut (L : GMem) (fl : Nat → Option UInt8) : Op → Out
  | .write buf addr => .count (
      if buf = [] then .ok 0
      else if mapped L addr then .ok (runLen L addr buf.length)
      else .err (.invalidGuestAddress addr))
  | .writeSlice buf addr => .unit (specWriteSlice L buf addr)
  | .writeObj buf addr => .unit (specWriteSlice L buf addr)
  | .store _ t addr => .unit (
      if ObjAt L t addr then .ok ()
      else if mapped L addr then .err .invalidBackendAddress
      else .err (.invalidGuestAddress addr))
  | .read len addr => .data (
      if len = 0 then .ok []
      else if mapped L addr then .ok (flatRead fl addr (runLen L addr len))
      else .err (.invalidGuestAddress addr))
  | .readSlice len addr => .data (specReadSlice L fl len addr)
  | .readObj t addr => .data (specReadSlice L fl t.size addr)
  | .load t addr => .data (
      if ObjAt L t addr then .ok (flatRead fl addr t.size)
      else if mapped L addr then .err .invalidBackendAddress
      else .err (.invalidGuestAddress addr))

def specRun (L : GMem) (fl : Nat → Option UInt8) : List Op → (Nat → Option UInt8) × List Out
  | [] => (fl, [])
  | op :: ops => ((specRun L (specFlat L fl op) ops).1,
                  specOut L fl op :: (specRun L (specFlat L fl op) ops).2)

theorem specRun_fst (L : GMem) (fl : Nat → Option UInt8) (ops : List Op) :
    (specRun L fl ops).1 = ops.foldl (specFlat L) fl := by
  induction ops generalizing fl with
  | nil => rfl
  | cons op ops ih => exact ih (specFlat L fl op)

theorem write_refines (L m : GMem) (hL : SameLayout L m) (h : GWF m) (buf : List UInt8)
    (addr : Nat) (hv : buf.length < U) :
    (m.write buf addr).2 =
      (if buf = [] then .ok 0
       else if mapped L addr then .ok (runLen L addr buf.length)
       else .err (.invalidGuestAddress addr)) ∧
    flat (m.write buf addr).1 = overlay (flat m) addr (buf.take (runLen L addr buf.length)) ∧
    SameLayout L (m.write buf addr).1 ∧ GWF (m.write buf addr).1 := by
  by_cases hb : buf = []
  · subst hb
    rw [C18g.write_empty, if_pos rfl]
    exact ⟨rfl, by rw [List.take_nil, overlay_nil], hL, h⟩
  · rw [if_neg hb]
    obtain ⟨h1, h2⟩ := write_flat m h buf hb hv addr
    by_cases hm : mapped m addr
    · obtain ⟨m', hw, _, hsl, hg, hfl⟩ := h2 hm
      rw [hw, if_pos ((hL.mapped addr).1 hm), ← hL.runLen]
      refine ⟨rfl, ?_, hL.trans hsl, hg⟩
      funext a
      rw [hfl a, overlay_take _ _ _ _ (runLen_le m addr buf.length)]
    · rw [h1 hm, if_neg (mt (hL.mapped addr).2 hm), ← hL.runLen, runLen_unmapped hm]
      exact ⟨rfl, by rw [List.take_zero, overlay_nil], hL, h⟩

theorem writeSlice_refines (L m : GMem) (hL : SameLayout L m) (h : GWF m) (buf : List UInt8)
    (addr : Nat) (hv : buf.length < U) :
    (m.writeSlice buf addr).2 = specWriteSlice L buf addr ∧
    flat (m.writeSlice buf addr).1 = overlay (flat m) addr (buf.take (runLen L addr buf.length)) ∧
    SameLayout L (m.writeSlice buf addr).1 ∧ GWF (m.writeSlice buf addr).1 := by
  unfold specWriteSlice
  by_cases hb : buf = []
  · subst hb
    rw [C18g.writeSlice_empty, if_pos rfl]
    exact ⟨rfl, by rw [List.take_nil, overlay_nil], hL, h⟩
  · rw [if_neg hb]
    obtain ⟨h1, h2⟩ := writeSlice_flat m h buf hb hv addr
    by_cases hm : mapped m addr
    · obtain ⟨m', hw, hsl, hg, hfl⟩ := h2 hm
      rw [hw, if_pos ((hL.mapped addr).1 hm), ← hL.runLen]
      refine ⟨rfl, ?_, hL.trans hsl, hg⟩
      funext a
      rw [hfl a, overlay_take _ _ _ _ (runLen_le m addr buf.length)]
    · rw [h1 hm, if_neg (mt (hL.mapped addr).2 hm), ← hL.runLen, runLen_unmapped hm]
      exact ⟨rfl, by rw [List.take_zero, overlay_nil], hL, h⟩

theorem store_refines (L m : GMem) (hL : SameLayout L m) (h : GWF m) (val : List UInt8) (t : Ty)
    (addr : Nat) :
    voidRes (m.store val t addr) =
      (if ObjAt L t addr then .ok ()
       else if mapped L addr then .err .invalidBackendAddress
       else .err (.invalidGuestAddress addr)) ∧
    flat (memOr m (m.store val t addr)) =
      (if ObjAt L t addr then overlay (flat m) addr (val.take t.size) else flat m) ∧
    SameLayout L (memOr m (m.store val t addr)) ∧ GWF (memOr m (m.store val t addr)) := by
  obtain ⟨h1, h2, h3⟩ := store_flat m h val t addr
  by_cases hob : ObjAt m t addr
  · obtain ⟨m', hok, hsl, hg, hfl⟩ := h3 hob
    have hobL := (ObjAt_congr hL t addr).1 hob
    rw [hok, if_pos hobL, if_pos hobL]
    refine ⟨rfl, ?_, hL.trans hsl, hg⟩
    funext a
    exact hfl a
  · have hobL : ¬ ObjAt L t addr := mt (ObjAt_congr hL t addr).2 hob
    rw [if_neg hobL, if_neg hobL]
    by_cases hm : mapped m addr
    · rw [h2 hm hob, if_pos ((hL.mapped addr).1 hm)]
      exact ⟨rfl, rfl, hL, h⟩
    · rw [h1 hm, if_neg (mt (hL.mapped addr).2 hm)]
      exact ⟨rfl, rfl, hL, h⟩

theorem read_refines (L m : GMem) (hL : SameLayout L m) (h : GWF m) (len addr : Nat) (hv : len < U) :
    m.read len addr =
      (if len = 0 then .ok []
       else if mapped L addr then .ok (flatRead (flat m) addr (runLen L addr len))
       else .err (.invalidGuestAddress addr)) := by
  by_cases h0 : len = 0
  · subst h0; rw [C18g.read_zero, if_pos rfl]
  · rw [if_neg h0]
    by_cases hm : mapped m addr
    · rw [if_pos ((hL.mapped addr).1 hm), ← hL.runLen,
        read_eq_flatRead m h len (by omega) hv addr hm]
    · rw [if_neg (mt (hL.mapped addr).2 hm),
        (read_flat m h len (by omega) hv addr).1 hm]

theorem readSlice_refines (L m : GMem) (hL : SameLayout L m) (h : GWF m) (len addr : Nat)
    (hv : len < U) : m.readSlice len addr = specReadSlice L (flat m) len addr := by
  unfold specReadSlice
  by_cases h0 : len = 0
  · subst h0; rw [C18g.readSlice_zero, if_pos rfl]
  · rw [if_neg h0]
    obtain ⟨h1, h2, h3⟩ := readSlice_flat m h len (by omega) hv addr
    by_cases hm : mapped m addr
    · rw [if_pos ((hL.mapped addr).1 hm), ← hL.runLen]
      by_cases hk : runLen m addr len = len
      · rw [if_pos hk]
        exact (readSlice_of_mapped m h len (by omega) hv addr
          ((runLen_full_iff m addr len).1 hk)).2.1
      · rw [if_neg hk, h3 hm hk]
    · rw [if_neg (mt (hL.mapped addr).2 hm), h1 hm]

theorem load_refines (L m : GMem) (hL : SameLayout L m) (h : GWF m) (t : Ty) (addr : Nat) :
    m.load t addr =
      (if ObjAt L t addr then .ok (flatRead (flat m) addr t.size)
       else if mapped L addr then .err .invalidBackendAddress
       else .err (.invalidGuestAddress addr)) := by
  obtain ⟨h1, h2, h3⟩ := load_flat m h t addr
  by_cases hob : ObjAt m t addr
  · rw [if_pos ((ObjAt_congr hL t addr).1 hob), h3 hob]
  · rw [if_neg (mt (ObjAt_congr hL t addr).2 hob)]
    by_cases hm : mapped m addr
    · rw [if_pos ((hL.mapped addr).1 hm), h2 hm hob]
    · rw [if_neg (mt (hL.mapped addr).2 hm), h1 hm]

theorem step_refines (L m : GMem) (hL : SameLayout L m) (h : GWF m) (op : Op) (hv : op.Valid) :
    (step m op).2 = specOut L (flat m) op ∧ flat (step m op).1 = specFlat L (flat m) op ∧
    SameLayout L (step m op).1 ∧ GWF (step m op).1 := by
  cases op with
  | write buf addr => exact (write_refines L m hL h buf addr hv).imp (congrArg Out.count) id
  | writeSlice buf addr => exact (writeSlice_refines L m hL h buf addr hv).imp (congrArg Out.unit) id
  | writeObj buf addr => exact (writeSlice_refines L m hL h buf addr hv).imp (congrArg Out.unit) id
  | store val t addr => exact (store_refines L m hL h val t addr).imp (congrArg Out.unit) id
  | read len addr => exact ⟨congrArg Out.data (read_refines L m hL h len addr hv), rfl, hL, h⟩
  | readSlice len addr =>
    exact ⟨congrArg Out.data (readSlice_refines L m hL h len addr hv), rfl, hL, h⟩
  | readObj t addr =>
    exact ⟨congrArg Out.data (readSlice_refines L m hL h t.size addr hv), rfl, hL, h⟩
  | load t addr => exact ⟨congrArg Out.data (load_refines L m hL h t addr), rfl, hL, h⟩

/-- **history**: along any list of calls, every returned value and the final flat bytes are
    those of the spec-level machine; layout and well-formedness are preserved throughout -/
theorem history_gen (L : GMem) (ops : List Op) :
    ∀ (m : GMem), SameLayout L m → GWF m → (∀ op ∈ ops, op.Valid) →
      (run m ops).2 = (specRun L (flat m) ops).2 ∧ flat (run m ops).1 = (specRun L (flat m) ops).1 ∧
      SameLayout L (run m ops).1 ∧ GWF (run m ops).1 := by
  induction ops with
  | nil => intro m hL h _; exact ⟨rfl, rfl, hL, h⟩
  | cons op ops ih =>
    intro m hL h hv
    obtain ⟨ho, hf, hL1, h1⟩ := step_refines L m hL h op (hv op List.mem_cons_self)
    obtain ⟨ro, rf, rL, rg⟩ := ih (step m op).1 hL1 h1 (fun o ho' => hv o (List.mem_cons_of_mem _ ho'))
    rw [hf] at ro rf
    refine ⟨?_, rf, rL, rg⟩
    show (step m op).2 :: (run (step m op).1 ops).2 = _
    rw [ho, ro]
    rfl

theorem history (m : GMem) (h : GWF m) (ops : List Op) (hv : ∀ op ∈ ops, op.Valid) :
    (run m ops).2 = (specRun m (flat m) ops).2 ∧
    flat (run m ops).1 = ops.foldl (specFlat m) (flat m) ∧
    SameLayout m (run m ops).1 ∧ GWF (run m ops).1 := by
  obtain ⟨a, b, c, d⟩ := history_gen m ops m (SameLayout.refl m) h hv
  exact ⟨a, by rw [b, specRun_fst], c, d⟩

/-- a byte no write of the history covers is never changed -/
theorem history_untouched (m : GMem) (h : GWF m) (ops : List Op) (hv : ∀ op ∈ ops, op.Valid)
    (a : Nat)
    (hfar : ∀ op ∈ ops, match op with
      | .write buf addr => a < addr ∨ addr + buf.length ≤ a
      | .writeSlice buf addr => a < addr ∨ addr + buf.length ≤ a
      | .writeObj buf addr => a < addr ∨ addr + buf.length ≤ a
      | .store _ t addr => a < addr ∨ addr + t.size ≤ a
      | _ => True) :
    flat (run m ops).1 a = flat m a := by
  rw [(history m h ops hv).2.1]
  generalize flat m = fl
  induction ops generalizing fl with
  | nil => rfl
  | cons op ops ih =>
    rw [List.foldl_cons, ih (fun o ho => hv o (List.mem_cons_of_mem _ ho))
      (fun o ho => hfar o (List.mem_cons_of_mem _ ho))]
    have hop := hfar op List.mem_cons_self
    -- an overlay of at most `n` bytes at `addr` leaves `a` alone
    have hout : ∀ (d : List UInt8) (addr n : Nat), d.length ≤ n → (a < addr ∨ addr + n ≤ a) →
        overlay fl addr d a = fl a :=
      fun d addr n hd hfar => if_neg (by omega)
    cases op with
    | write buf addr => exact hout _ addr _ (List.length_take_le' _ _) hop
    | writeSlice buf addr => exact hout _ addr _ (List.length_take_le' _ _) hop
    | writeObj buf addr => exact hout _ addr _ (List.length_take_le' _ _) hop
    | store val t addr =>
      show (if ObjAt m t addr then overlay fl addr (val.take t.size) else fl) a = fl a
      split
      · exact hout _ addr _ (List.length_take_le _ _) hop
      · rfl
    | read _ _ => rfl
    | readSlice _ _ => rfl
    | readObj _ _ => rfl
    | load _ _ => rfl

/-! ## 8. non-vacuity: three regions, a write across a boundary that stops at a hole

  A = `[0x1000, 0x1004)`, B = `[0x1004, 0x1007)` (touching A), hole `[0x1007, 0x100a)`,
  C = `[0x100a, 0x100c)`. -/

def regA : Region := { start := 0x1000, mem := ⟨0x7000, [0xA0, 0xA1, 0xA2, 0xA3], none⟩, id := 1 }
def regB : Region := { start := 0x1004, mem := ⟨0x8000, [0xB0, 0xB1, 0xB2], none⟩, id := 2 }
def regC : Region := { start := 0x100a, mem := ⟨0x9000, [0xC0, 0xC1], none⟩, id := 3 }
def exMem : GMem := [regA, regB, regC]
def buf9 : List UInt8 := [1, 2, 3, 4, 5, 6, 7, 8, 9]

/-- after the second iteration: 3 bytes in B -/
def exMem2 : GMem :=
  [{ regA with mem := ⟨0x7000, [0xA0, 0xA1, 1, 2], none⟩ },
   { regB with mem := ⟨0x8000, [3, 4, 5], none⟩ }, regC]

theorem gwf_of_untracked (m : GMem) (hw : WF m)
    (h : ∀ r ∈ m, r.mem.bm = none ∧ r.mem.base + r.mem.bytes.length ≤ U) : GWF m :=
  ⟨hw, fun r hr => ⟨BmInv_none _ (h r hr).1, (h r hr).2⟩⟩

theorem exMem_GWF : GWF exMem := gwf_of_untracked exMem (by decide) (by decide)

example : runLen exMem 0x1002 9 = 5 := by decide
example : runLen exMem 0x1007 9 = 0 := by decide
example : runLen exMem 0x100a 9 = 2 := by decide

/-- through the theorems: `Ok(5)` … -/
example : (exMem.write buf9 0x1002).2 = .ok 5 :=
  (write_result exMem exMem_GWF buf9 (by decide) (by decide) 0x1002).trans (by decide)
/-- … `PartialBuffer { expected: 9, completed: 5 }` for the all-or-error form … -/
example : (exMem.writeSlice buf9 0x1002).2 = .err (.partialBuffer 9 5) :=
  (writeSlice_refines exMem exMem (SameLayout.refl _) exMem_GWF buf9 0x1002 (by decide)).1.trans
    (by decide)
/-- … a write that starts in the hole fails and changes nothing … -/
example : exMem.write buf9 0x1007 = (exMem, .err (.invalidGuestAddress 0x1007)) :=
  (write_flat exMem exMem_GWF buf9 (by decide) (by decide) 0x1007).1 (by decide)
/-- … and two bytes fit C entirely -/
example : (exMem.writeSlice [7, 8] 0x100a).2 = .ok () :=
  ((writeSlice_ok_iff exMem exMem_GWF [7, 8] (by decide) (by decide) 0x100a).1).2 (by decide)

/-- directly on the model, by kernel evaluation: the memory afterwards has 2 bytes in A, 3 in B,
    C untouched -/
theorem ex_write : exMem.write buf9 0x1002 = (exMem2, .ok 5) := by
  decide +kernel

/-- the flat view of the result: the five bytes, in order, across the A/B boundary; the hole
    and C as before -/
example : (List.range 12).map (fun i => flat exMem2 (0x1000 + i)) =
    [some 0xA0, some 0xA1, some 1, some 2, some 3, some 4, some 5, none, none, none,
     some 0xC0, some 0xC1] := by decide

/-- reading back: 9 bytes asked, the 5 of the run returned; the all-or-error form reports 5 -/
example : exMem2.read 9 0x1002 = .ok [1, 2, 3, 4, 5] :=
  (write_read exMem exMem_GWF buf9 (by decide) (by decide) 0x1002 ex_write).2.2
example : exMem2.readSlice 3 0x1003 = .ok [2, 3, 4] :=
  (write_read_sub exMem exMem_GWF buf9 (by decide) (by decide) 0x1002 ex_write 0x1003 3
    (by decide) (by decide) (by decide)).2.1
/-- region-level and host-pointer routes -/
example : ({ regB with mem := ⟨0x8000, [3, 4, 5], none⟩ } : Region).read 2 1 = .ok [4, 5] := by decide
example : exMem2.getHostAddress 0x1005 = .ok 0x8001 := by decide

/-- a memory whose regions are tracked by dirty bitmaps is in scope too (`BmInv` from C09):
    two touching tracked regions, a write across the boundary -/
def exTrackedMem : GMem :=
  [ { start := 0x2000, mem := C04.exTracked, id := 1 },
    { start := 0x200d, mem := { C04.exTracked with base := 0x5000 }, id := 2 } ]

theorem exTrackedMem_GWF : GWF exTrackedMem := by
  refine ⟨by decide, ?_⟩
  intro r hr
  simp only [exTrackedMem, List.mem_cons, List.not_mem_nil, or_false] at hr
  rcases hr with rfl | rfl
  · exact ⟨C04.exTracked_inv, by decide⟩
  · exact ⟨BmInv_congr (m := C04.exTracked) rfl C04.exTracked_inv, by decide⟩

example : ∃ m', exTrackedMem.write [0xAA, 0xBB, 0xCC, 0xDD] 0x200b = (m', .ok 4) ∧ GWF m' ∧
    m'.read 4 0x200b = .ok [0xAA, 0xBB, 0xCC, 0xDD] ∧
    flat m' 0x200c = some 0xBB ∧ flat m' 0x200d = some 0xCC ∧ flat m' 0x200a = some 10 := by
  obtain ⟨m', hw, _, _, hg, hfl⟩ :=
    (write_flat exTrackedMem exTrackedMem_GWF [0xAA, 0xBB, 0xCC, 0xDD] (by decide) (by decide)
      0x200b).2 (by decide)
  have hk : runLen exTrackedMem 0x200b ([0xAA, 0xBB, 0xCC, 0xDD] : List UInt8).length = 4 := by decide
  rw [hk] at hw hfl
  refine ⟨m', hw, hg, ?_, ?_, ?_, ?_⟩
  · exact (write_read exTrackedMem exTrackedMem_GWF _ (by decide) (by decide) 0x200b hw).1
  · rw [hfl]; decide
  · rw [hfl]; decide
  · rw [hfl]; decide

/-! ## clauses 3 and 4 of the property, each in one statement -/

theorem slice_forms (m : GMem) (h : GWF m) (addr : Nat) :
    (∀ buf : List UInt8, buf ≠ [] → buf.length < U →
      ((m.writeSlice buf addr).2 = .ok () ↔ runLen m addr buf.length = buf.length) ∧
      (¬ mapped m addr → m.writeSlice buf addr = (m, .err (.invalidGuestAddress addr))) ∧
      (mapped m addr →
        ∃ m', m.writeSlice buf addr =
            (m', if runLen m addr buf.length = buf.length then .ok ()
                 else .err (.partialBuffer buf.length (runLen m addr buf.length))) ∧
          SameLayout m m' ∧ GWF m' ∧
          ∀ a, flat m' a =
            if addr ≤ a ∧ a < addr + runLen m addr buf.length then buf[a - addr]? else flat m a)) ∧
    (∀ len : Nat, 0 < len → len < U →
      (¬ mapped m addr → m.readSlice len addr = .err (.invalidGuestAddress addr)) ∧
      (mapped m addr → runLen m addr len = len →
        m.readSlice len addr = .ok (flatRead (flat m) addr len)) ∧
      (mapped m addr → runLen m addr len ≠ len →
        m.readSlice len addr = .err (.partialBuffer len (runLen m addr len)))) ∧
    (∀ val, m.writeObj val addr = m.writeSlice val addr) ∧
    (∀ t : Ty, m.readObj t addr = m.readSlice t.size addr) := by
  refine ⟨?_, ?_, fun _ => rfl, fun _ => rfl⟩
  · intro buf hb hl
    obtain ⟨h1, h2⟩ := writeSlice_flat m h buf hb hl addr
    exact ⟨(writeSlice_ok_iff m h buf hb hl addr).1, h1, h2⟩
  · intro len hpos hl
    obtain ⟨h1, _, h3⟩ := readSlice_flat m h len hpos hl addr
    refine ⟨h1, ?_, h3⟩
    intro _ hk
    exact (readSlice_of_mapped m h len hpos hl addr ((runLen_full_iff m addr len).1 hk)).2.1

theorem round_trip (m : GMem) (h : GWF m) (buf : List UInt8) (hb : buf ≠ []) (hl : buf.length < U)
    (addr : Nat) {m' : GMem} {k : Nat} (hw : m.write buf addr = (m', .ok k)) :
    m'.read k addr = .ok (buf.take k) ∧
    m'.read buf.length addr = .ok (buf.take k) ∧
    (∀ a n, 0 < n → addr ≤ a → a + n ≤ addr + k →
      m'.read n a = .ok ((buf.drop (a - addr)).take n) ∧
      m'.readSlice n a = .ok ((buf.drop (a - addr)).take n) ∧
      (∀ t : Ty, t.size = n → m'.readObj t a = .ok ((buf.drop (a - addr)).take n)) ∧
      (∀ t : Ty, t.size = n → ObjAt m' t a → m'.load t a = .ok ((buf.drop (a - addr)).take n)) ∧
      (∀ (i : Nat) (r' : Region), m'[i]? = some r' → r'.start ≤ a → a + n ≤ r'.start + r'.len →
        r'.read n (a - r'.start) = .ok ((buf.drop (a - addr)).take n))) ∧
    (∀ j, j < k → ∃ (i : Nat) (r' : Region) (p : Nat), m'[i]? = some r' ∧
      m'.getHostAddress (addr + j) = .ok p ∧ m.getHostAddress (addr + j) = .ok p ∧
      r'.mem.readAt p 1 = .ok (buf[j]?).toList) := by
  have w := write_post m h buf hb hl addr hw
  have hle := w.le
  obtain ⟨r1, _, r3⟩ := write_read m h buf hb hl addr hw
  refine ⟨r1, r3, ?_, ?_⟩
  · intro a n hn ha hfit
    obtain ⟨s1, s2, s3⟩ := write_read_sub m h buf hb hl addr hw a n hn ha hfit
    refine ⟨s1, s2, s3, ?_, ?_⟩
    · intro t ht hob
      rw [(load_flat m' w.gwf t a).2.2 hob, ht, w.readout a n ha hfit]
    · intro i r' hi hin hreg
      exact write_region_read m h buf hb hl addr hw hi a n hn ha hin hfit hreg
  · intro j hj
    obtain ⟨i, r', p, hi, h1, h2, h3⟩ := write_host m h buf hb hl addr hw j hj
    refine ⟨i, r', p, hi, h1, h2, ?_⟩
    rw [h3, List.getElem?_eq_getElem (by omega)]
    rfl

end C03
end VmMem

#print axioms VmMem.C03.write_flat
#print axioms VmMem.C03.write_result
#print axioms VmMem.C03.write_err_iff
#print axioms VmMem.C03.read_flat
#print axioms VmMem.C03.read_err_iff
#print axioms VmMem.C03.read_congr
#print axioms VmMem.C03.writeSlice_flat
#print axioms VmMem.C03.writeSlice_ok_iff
#print axioms VmMem.C03.readSlice_flat
#print axioms VmMem.C03.readSlice_ok_iff
#print axioms VmMem.C03.writeObj_eq
#print axioms VmMem.C03.readObj_eq
#print axioms VmMem.C03.read_eq_flatRead
#print axioms VmMem.C03.readSlice_of_mapped
#print axioms VmMem.C03.region_read_flat
#print axioms VmMem.C03.flat_via_host
#print axioms VmMem.C03.write_post
#print axioms VmMem.C03.write_read
#print axioms VmMem.C03.write_read_sub
#print axioms VmMem.C03.write_region_read
#print axioms VmMem.C03.write_host
#print axioms VmMem.C03.store_flat
#print axioms VmMem.C03.store_ok_iff
#print axioms VmMem.C03.load_flat
#print axioms VmMem.C03.store_load
#print axioms VmMem.C03.no_wrap
#print axioms VmMem.C03.no_wrap_loop
#print axioms VmMem.C03.trivCb_good
#print axioms VmMem.C03.wcb_good
#print axioms VmMem.C03.rcb_good
#print axioms VmMem.C03.write_read_no_wrap
#print axioms VmMem.C03.step_refines
#print axioms VmMem.C03.history_gen
#print axioms VmMem.C03.history
#print axioms VmMem.C03.history_untouched
#print axioms VmMem.C03.exMem_GWF
#print axioms VmMem.C03.ex_write
#print axioms VmMem.C03.exTrackedMem_GWF
#print axioms VmMem.C03.slice_forms
#print axioms VmMem.C03.round_trip
#print axioms VmMem.C03.ObjAt_congr
#print axioms VmMem.C03.ObjAt_of_owner
#print axioms VmMem.C03.write_refines
#print axioms VmMem.C03.writeSlice_refines
#print axioms VmMem.C03.store_refines
#print axioms VmMem.C03.read_refines
#print axioms VmMem.C03.readSlice_refines
#print axioms VmMem.C03.load_refines
#print axioms VmMem.C03.specRun_fst
#print axioms VmMem.FlatLemmas.loop_write
#print axioms VmMem.FlatLemmas.loop_read
#print axioms VmMem.FlatLemmas.loop_step
#print axioms VmMem.FlatLemmas.loop_unmapped
#print axioms VmMem.FlatLemmas.no_wrap_step
#print axioms VmMem.FlatLemmas.flat_set
#print axioms VmMem.FlatLemmas.flat_stored
#print axioms VmMem.C03.wrap_before_fix
#print axioms VmMem.C03.no_wrap_after_fix
#print axioms VmMem.C03.loop_stops_at_top
