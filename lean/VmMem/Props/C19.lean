/-
  VmMem.Props.C19 — address arithmetic (address.rs) over `Word = BitVec 64`.
-/
import VmMem.Model.Addr
import VmMem.Lemmas.AddrLemmas
namespace VmMem
namespace C19
open AddrLemmas

/-! ### `toNat` of a difference -/

theorem toNat_sub_of_le {a b : Word} (h : b.toNat ≤ a.toNat) : (a - b).toNat = a.toNat - b.toNat :=
  BitVec.toNat_sub_of_le (BitVec.le_def.2 h)

theorem toNat_sub_wrap (a b : Word) : (a - b).toNat = (a.toNat + U - b.toNat) % U := by
  rw [BitVec.toNat_sub', ← Nat.add_sub_assoc (Nat.le_of_lt b.isLt)]; rfl

/-! ### 1. checked_add -/

theorem checkedAdd_iff (a b : Word) :
    (∃ r, Addr.checkedAdd a b = some r) ↔ a.toNat + b.toNat < U := by
  unfold Addr.checkedAdd
  by_cases h : a.toNat + b.toNat < U <;> simp [h]

theorem checkedAdd_val {a b r : Word} (h : Addr.checkedAdd a b = some r) :
    r.toNat = a.toNat + b.toNat := by
  unfold Addr.checkedAdd at h
  split at h
  · next hlt => cases h; exact BitVec.toNat_add_of_lt hlt
  · cases h

/-! ### 2. checked_sub / checked_offset_from -/

theorem checkedSub_iff (a b : Word) :
    (∃ r, Addr.checkedSub a b = some r) ↔ b.toNat ≤ a.toNat := by
  unfold Addr.checkedSub
  by_cases h : b.toNat ≤ a.toNat <;> simp [h]

theorem checkedSub_val {a b r : Word} (h : Addr.checkedSub a b = some r) :
    b.toNat ≤ a.toNat ∧ r.toNat = a.toNat - b.toNat := by
  unfold Addr.checkedSub at h
  split at h
  · next hle => cases h; exact ⟨hle, toNat_sub_of_le hle⟩
  · cases h

theorem checkedOffsetFrom_iff (a base : Word) :
    (∃ r, Addr.checkedOffsetFrom a base = some r) ↔ base.toNat ≤ a.toNat :=
  checkedSub_iff a base

theorem checkedOffsetFrom_val {a base r : Word} (h : Addr.checkedOffsetFrom a base = some r) :
    base.toNat ≤ a.toNat ∧ r.toNat = a.toNat - base.toNat :=
  checkedSub_val h

/-! ### 3. overflowing_add / overflowing_sub -/

theorem overflowingAdd_spec (a b : Word) :
    (Addr.overflowingAdd a b).1.toNat = (a.toNat + b.toNat) % U ∧
      ((Addr.overflowingAdd a b).2 = true ↔ U ≤ a.toNat + b.toNat) :=
  ⟨BitVec.toNat_add a b, decide_eq_true_iff⟩

theorem overflowingSub_spec (a b : Word) :
    (Addr.overflowingSub a b).1.toNat = (a.toNat + U - b.toNat) % U ∧
      ((Addr.overflowingSub a b).2 = true ↔ a.toNat < b.toNat) :=
  ⟨toNat_sub_wrap a b, decide_eq_true_iff⟩

/-! ### 4. plain `+` / `-` in the two build profiles -/

theorem uncheckedAdd_fits (chk : Bool) (a b : Word) (h : a.toNat + b.toNat < U) :
    ∃ r, Addr.uncheckedAdd chk a b = .ok r ∧ r.toNat = a.toNat + b.toNat :=
  ⟨a + b, if_pos h, BitVec.toNat_add_of_lt h⟩

theorem uncheckedAdd_overflow_checked (a b : Word) (h : U ≤ a.toNat + b.toNat) :
    Addr.uncheckedAdd true a b = .panic := by
  rw [Addr.uncheckedAdd, if_neg (Nat.not_lt.2 h)]
  rfl

theorem uncheckedAdd_overflow_wrapping (a b : Word) (h : U ≤ a.toNat + b.toNat) :
    ∃ r, Addr.uncheckedAdd false a b = .ok r ∧ r.toNat = (a.toNat + b.toNat) % U :=
  ⟨a + b, by rw [Addr.uncheckedAdd, if_neg (Nat.not_lt.2 h)]; rfl, BitVec.toNat_add a b⟩

theorem uncheckedSub_fits (chk : Bool) (a b : Word) (h : b.toNat ≤ a.toNat) :
    ∃ r, Addr.uncheckedSub chk a b = .ok r ∧ r.toNat = a.toNat - b.toNat :=
  ⟨a - b, if_pos h, toNat_sub_of_le h⟩

theorem uncheckedSub_underflow_checked (a b : Word) (h : a.toNat < b.toNat) :
    Addr.uncheckedSub true a b = .panic := by
  rw [Addr.uncheckedSub, if_neg (Nat.not_le.2 h)]
  rfl

theorem uncheckedSub_underflow_wrapping (a b : Word) (h : a.toNat < b.toNat) :
    ∃ r, Addr.uncheckedSub false a b = .ok r ∧ r.toNat = (a.toNat + U - b.toNat) % U :=
  ⟨a - b, by rw [Addr.uncheckedSub, if_neg (Nat.not_le.2 h)]; rfl, toNat_sub_wrap a b⟩

theorem uncheckedOffsetFrom_eq (chk : Bool) (a base : Word) :
    Addr.uncheckedOffsetFrom chk a base = Addr.uncheckedSub chk a base := rfl

/-! ### 5. align-up -/

/-- `p` is a power of two representable in a `u64` -/
def IsPow2 (p : Word) : Prop := ∃ k, k < 64 ∧ p.toNat = 2 ^ k

theorem IsPow2.ne_zero {p : Word} (hp : IsPow2 p) : p ≠ 0 := by
  obtain ⟨k, _, hk⟩ := hp
  rintro rfl
  exact Nat.ne_of_lt (Nat.two_pow_pos k) hk

theorem toNat_pred_of_pow2 {p : Word} {k : Nat} (hk : p.toNat = 2 ^ k) :
    (p - 1).toNat = 2 ^ k - 1 := by
  rw [toNat_sub_of_le (by rw [hk]; exact Nat.two_pow_pos k), hk]; rfl

theorem IsPow2.and_pred {p : Word} (hp : IsPow2 p) : p &&& (p - 1) = 0 := by
  obtain ⟨k, _, hk⟩ := hp
  apply BitVec.eq_of_toNat_eq
  rw [BitVec.toNat_and, toNat_pred_of_pow2 hk, hk, Nat.and_two_pow_sub_one_eq_mod, Nat.mod_self]
  rfl

/-- the two `assert`s of `checked_align_up` pass exactly for powers of two -/
theorem isPow2_iff (p : Word) : IsPow2 p ↔ (p ≠ 0 ∧ p &&& (p - 1) = 0) := by
  refine ⟨fun hp => ⟨hp.ne_zero, hp.and_pred⟩, fun ⟨h0, hand⟩ => ?_⟩
  have hn : p.toNat ≠ 0 := fun h => h0 (BitVec.eq_of_toNat_eq h)
  have h := congrArg BitVec.toNat hand
  rw [BitVec.toNat_and, toNat_sub_of_le (a := p) (b := 1) (Nat.pos_of_ne_zero hn)] at h
  obtain ⟨k, hk⟩ := (Nat.and_sub_one_eq_zero_iff_isPowerOfTwo hn).1 h
  exact ⟨k, (Nat.pow_lt_pow_iff_right (by decide)).1 (hk ▸ p.isLt), hk⟩

/-- `x & !(p-1)` rounds `x` down to a multiple of `p = 2^k` -/
theorem toNat_and_not_pred {p : Word} {k : Nat} (hk64 : k < 64) (hk : p.toNat = 2 ^ k) (x : Word) :
    (x &&& ~~~(p - 1)).toNat = x.toNat / p.toNat * p.toNat := by
  rw [BitVec.toNat_and, BitVec.toNat_not, toNat_pred_of_pow2 hk, hk]
  exact and_not_low x.toNat k 64 x.isLt (by omega)

theorem checkedAlignUp_panics_iff (a p : Word) :
    Addr.checkedAlignUp a p = .panic ↔ ¬ IsPow2 p := by
  rw [isPow2_iff]
  unfold Addr.checkedAlignUp
  by_cases h0 : p = 0
  · rw [if_pos h0]
    exact ⟨fun _ h => h.1 h0, fun _ => rfl⟩
  · rw [if_neg h0]
    by_cases h1 : p &&& (p - 1) = 0
    · rw [if_neg (fun h => h h1)]
      exact ⟨fun h => (by cases h), fun h => absurd ⟨h0, h1⟩ h⟩
    · rw [if_pos h1]
      exact ⟨fun _ h => h1 h.2, fun _ => rfl⟩

theorem checkedAlignUp_eq_of_pow2 (a p : Word) (hp : IsPow2 p) :
    Addr.checkedAlignUp a p =
      .ok ((Addr.checkedAdd a (p - 1)).map (fun x => x &&& ~~~(p - 1))) := by
  rw [Addr.checkedAlignUp, if_neg hp.ne_zero, if_neg (fun h => h hp.and_pred)]

theorem fits_iff_multiple {a p : Word} (hp : IsPow2 p) :
    a.toNat + p.toNat - 1 < U ↔ ∃ m, m < U ∧ p.toNat ∣ m ∧ a.toNat ≤ m := by
  obtain ⟨k, hk64, hk⟩ := hp
  have hpos : 0 < p.toNat := hk ▸ Nat.two_pow_pos k
  constructor
  · intro h
    obtain ⟨h1, h2, h3, -⟩ := alignUp_least a.toNat p.toNat hpos
    exact ⟨_, by omega, h1, h2⟩
  · rintro ⟨m, hm, hd, ham⟩
    have := multiple_le_top k 64 m (by omega) (hk ▸ hd) hm
    rw [hk]; unfold U; omega

theorem IsPow2.add_pred {p : Word} (hp : IsPow2 p) (a : Word) :
    a.toNat + (p - 1).toNat = a.toNat + p.toNat - 1 := by
  obtain ⟨k, -, hk⟩ := hp
  rw [toNat_pred_of_pow2 hk, hk, Nat.add_sub_assoc (Nat.two_pow_pos k)]

theorem alignUp_fits {a p : Word} (hp : IsPow2 p) (h : a.toNat + p.toNat - 1 < U) :
    ∃ r, Addr.checkedAlignUp a p = .ok (some r) ∧ (∀ chk, Addr.uncheckedAlignUp chk a p = .ok r) ∧
      (p.toNat ∣ r.toNat ∧ a.toNat ≤ r.toNat ∧ ∀ m, p.toNat ∣ m → a.toNat ≤ m → r.toNat ≤ m) := by
  have hfit : a.toNat + (p - 1).toNat < U := hp.add_pred a ▸ h
  have hx : (a + (p - 1)).toNat = a.toNat + (p - 1).toNat := BitVec.toNat_add_of_lt hfit
  refine ⟨(a + (p - 1)) &&& ~~~(p - 1), ?_, fun chk => ?_, ?_⟩
  · rw [checkedAlignUp_eq_of_pow2 a p hp, Addr.checkedAdd, if_pos hfit]; rfl
  · rw [Addr.uncheckedAlignUp, if_neg (fun h => hp.ne_zero h.1)]
    simp only [Addr.uncheckedAdd, if_pos hfit]
  · obtain ⟨k, hk64, hk⟩ := hp
    rw [toNat_and_not_pred hk64 hk, hx, toNat_pred_of_pow2 hk, ← hk]
    obtain ⟨h1, h2, -, h4⟩ := alignUp_least a.toNat p.toNat (hk ▸ Nat.two_pow_pos k)
    exact ⟨h1, h2, h4⟩

theorem alignUp_overflow {a p : Word} (hp : IsPow2 p) (h : U ≤ a.toNat + p.toNat - 1) :
    Addr.checkedAlignUp a p = .ok none := by
  have hfit : ¬ a.toNat + (p - 1).toNat < U := hp.add_pred a ▸ Nat.not_lt.2 h
  rw [checkedAlignUp_eq_of_pow2 a p hp, Addr.checkedAdd, if_neg hfit]; rfl

/-- `checked_align_up` returns `None` exactly when `a + (p-1)` overflows -/
theorem checkedAlignUp_none_iff_overflow (a p : Word) (hp : IsPow2 p) :
    Addr.checkedAlignUp a p = .ok none ↔ U ≤ a.toNat + p.toNat - 1 := by
  refine ⟨fun h => Nat.le_of_not_lt fun hfit => ?_, alignUp_overflow hp⟩
  obtain ⟨r, hr, -⟩ := alignUp_fits hp hfit
  rw [hr] at h; cases h

theorem checkedAlignUp_none (a p : Word) (hp : IsPow2 p) :
    Addr.checkedAlignUp a p = .ok none ↔ ¬ ∃ m, m < U ∧ p.toNat ∣ m ∧ a.toNat ≤ m := by
  rw [checkedAlignUp_none_iff_overflow a p hp, ← fits_iff_multiple hp, Nat.not_lt]

theorem checkedAlignUp_some (a p r : Word) (hp : IsPow2 p) :
    Addr.checkedAlignUp a p = .ok (some r) ↔
      (p.toNat ∣ r.toNat ∧ a.toNat ≤ r.toNat ∧ ∀ m, p.toNat ∣ m → a.toNat ≤ m → r.toNat ≤ m) := by
  constructor
  · intro h
    by_cases hfit : a.toNat + p.toNat - 1 < U
    · obtain ⟨r', hr', -, hl⟩ := alignUp_fits hp hfit
      rw [hr'] at h; cases h; exact hl
    · rw [alignUp_overflow hp (Nat.le_of_not_lt hfit)] at h; cases h
  · intro h
    -- `r` itself is a multiple in `[a, U)`, so the sum fits; least multiples are unique
    obtain ⟨r', hr', -, hl⟩ := alignUp_fits hp ((fits_iff_multiple hp).2 ⟨_, r.isLt, h.1, h.2.1⟩)
    rw [hr', BitVec.eq_of_toNat_eq (Nat.le_antisymm (hl.2.2 _ h.1 h.2.1) (h.2.2 _ hl.1 hl.2.1))]

theorem uncheckedAlignUp_eq (chk : Bool) (a p : Word) (hp : IsPow2 p)
    (h : a.toNat + p.toNat - 1 < U) :
    ∃ r, Addr.uncheckedAlignUp chk a p = .ok r ∧
      (p.toNat ∣ r.toNat ∧ a.toNat ≤ r.toNat ∧ ∀ m, p.toNat ∣ m → a.toNat ≤ m → r.toNat ≤ m) := by
  obtain ⟨r, -, h2, h3⟩ := alignUp_fits hp h
  exact ⟨r, h2 chk, h3⟩

/-- on non-overflowing inputs the two align-up functions agree, in both profiles -/
theorem uncheckedAlignUp_eq_checked (chk : Bool) (a p : Word) (hp : IsPow2 p)
    (h : a.toNat + p.toNat - 1 < U) :
    ∃ r, Addr.uncheckedAlignUp chk a p = .ok r ∧ Addr.checkedAlignUp a p = .ok (some r) := by
  obtain ⟨r, h1, h2, -⟩ := alignUp_fits hp h
  exact ⟨r, h2 chk, h1⟩

/-! ### 6. mask / bitand / bitor -/

theorem mask_raw (a m : Word) : (Addr.mask a m).toNat = a.toNat &&& m.toNat :=
  BitVec.toNat_and a m
theorem bitAnd_raw (a m : Word) : (Addr.bitAnd a m).toNat = a.toNat &&& m.toNat :=
  BitVec.toNat_and a m
theorem bitOr_raw (a m : Word) : (Addr.bitOr a m).toNat = a.toNat ||| m.toNat :=
  BitVec.toNat_or a m

/-! ### 7. ordering -/

theorem cmp_spec (a b : Word) :
    (Addr.cmp a b = -1 ↔ a.toNat < b.toNat) ∧
    (Addr.cmp a b = 0 ↔ a = b) ∧
    (Addr.cmp a b = 1 ↔ a.toNat > b.toNat) := by
  unfold Addr.cmp
  rw [← BitVec.toNat_inj]
  by_cases h1 : a.toNat < b.toNat
  · have : a.toNat ≠ b.toNat := by omega
    have : ¬ a.toNat > b.toNat := by omega
    simp [*]
  · by_cases h2 : a.toNat = b.toNat
    · simp [h2]
    · have : a.toNat > b.toNat := by omega
      simp [*]

/-! ### non-vacuity -/

example : IsPow2 (4 : Word) := ⟨2, by decide, by decide⟩
example : ¬ IsPow2 (6 : Word) := by rw [isPow2_iff]; decide
example : ¬ IsPow2 (0 : Word) := by rw [isPow2_iff]; decide
example : Addr.checkedAlignUp (BitVec.ofNat 64 (2 ^ 64 - 5)) 4 =
    .ok (some (BitVec.ofNat 64 (2 ^ 64 - 4))) := by decide
example : Addr.checkedAlignUp (BitVec.ofNat 64 (2 ^ 64 - 3)) 4 = .ok none := by decide
example : Addr.checkedAlignUp (BitVec.ofNat 64 (2 ^ 64 - 4)) 4 =
    .ok (some (BitVec.ofNat 64 (2 ^ 64 - 4))) := by decide
example : Addr.checkedAlignUp 0x1001 0x1000 = .ok (some 0x2000) := by decide
example : Addr.checkedAlignUp 5 6 = .panic := by decide
example : Addr.checkedAlignUp 5 0 = .panic := by decide
example : Addr.uncheckedAlignUp true (BitVec.ofNat 64 (2 ^ 64 - 3)) 4 = .panic := by decide
example : Addr.uncheckedAlignUp false (BitVec.ofNat 64 (2 ^ 64 - 3)) 4 = .ok 0 := by decide
example : Addr.uncheckedAlignUp true 0x1001 0x1000 = .ok 0x2000 := by decide
example : Addr.checkedAdd (BitVec.ofNat 64 (2 ^ 64 - 1)) 1 = none := by decide
example : Addr.overflowingAdd (BitVec.ofNat 64 (2 ^ 64 - 1)) 2 = (1, true) := by decide
example : Addr.overflowingSub 1 2 = (BitVec.ofNat 64 (2 ^ 64 - 1), true) := by decide
example : Addr.uncheckedSub true 1 2 = .panic := by decide
example : Addr.uncheckedSub false 1 2 = .ok (BitVec.ofNat 64 (2 ^ 64 - 1)) := by decide
example : Addr.cmp 1 2 = -1 ∧ Addr.cmp 2 2 = 0 ∧ Addr.cmp 3 2 = 1 := by decide

#print axioms checkedAdd_iff
#print axioms checkedAdd_val
#print axioms checkedSub_iff
#print axioms checkedSub_val
#print axioms checkedOffsetFrom_iff
#print axioms checkedOffsetFrom_val
#print axioms overflowingAdd_spec
#print axioms overflowingSub_spec
#print axioms uncheckedAdd_fits
#print axioms uncheckedAdd_overflow_checked
#print axioms uncheckedAdd_overflow_wrapping
#print axioms uncheckedSub_fits
#print axioms uncheckedSub_underflow_checked
#print axioms uncheckedSub_underflow_wrapping
#print axioms isPow2_iff
#print axioms checkedAlignUp_panics_iff
#print axioms checkedAlignUp_some
#print axioms checkedAlignUp_none
#print axioms checkedAlignUp_none_iff_overflow
#print axioms uncheckedAlignUp_eq
#print axioms uncheckedAlignUp_eq_checked
#print axioms mask_raw
#print axioms bitAnd_raw
#print axioms bitOr_raw
#print axioms cmp_spec

end C19
end VmMem
