/-
  VmMem.Props.C16 — precision of dirty-page tracking: marks are confined to what was
  written.

  Same setting as `VmMem.Props.C05` (`Dirty.Setting m b B0`, accessors `Dirty.Tracks`).
  Every mutating operation has an `Effect m b B0 m' b' w n` (DirtyLemmas §3; the explicit
  window per operation is in `C05.*_marks`): bytes outside `[w, w + n)` are
  unchanged and `b'.bit p = Dirty.markedBits b B0 w n p`.
-/
import VmMem.Lemmas.DirtyLemmas
import VmMem.Props.C05
namespace VmMem.C16
open VmMem C01 Dirty VolatileLemmas

/-! ## §1 pages of a byte range -/

/-- the pages `a / page ..= (a + n - 1) / page` are exactly the pages the non-empty byte
    range `[a, a + n)` overlaps -/
theorem pages_overlap_iff (page a n p : Nat) (hp : 0 < page) (hn : 0 < n) :
    (a / page ≤ p ∧ p ≤ (a + n - 1) / page) ↔ ∃ x, a ≤ x ∧ x < a + n ∧ x / page = p :=
  pages_between page a (a + n) p hp (Nat.lt_add_of_pos_right hn)

/-! ## §2 precision -/

section precise
variable {m m' : Mem} {b b' : ABitmap} {B0 w n : Nat}

/-- the newly dirty pages are exactly the so-far-clean pages overlapping the window -/
theorem newly_dirty_iff (hs : Setting m b B0) (he : Effect m b B0 m' b' w n) (p : Nat) :
    (b'.bit p = true ∧ b.bit p = false) ↔
      (b.bit p = false ∧ 0 < n ∧ ∃ x, B0 + w ≤ x ∧ x < B0 + w + n ∧ x / b.page = p) := by
  rw [he.bits p, markedBits]
  cases b.bit p with
  | true => exact iff_of_false (fun h => nomatch h.2) (fun h => nomatch h.1)
  | false =>
    rw [Bool.false_or, decide_eq_true_iff, and_comm]
    exact and_congr_right' (and_congr_right fun hn =>
      pages_overlap_iff b.page (B0 + w) n p hs.inv.page_pos hn)

/-- for a write of `n` bytes at container offset `w` (`hn` is not needed), the set of newly
    dirty pages is contained in the pages overlapping `[B0 + w, B0 + w + n)`, and every
    page overlapping it is dirty afterwards -/
theorem precise (hs : Setting m b B0) (he : Effect m b B0 m' b' w n) (hn : 0 < n) :
    (∀ p, b'.bit p = true → b.bit p = false →
        ∃ x, B0 + w ≤ x ∧ x < B0 + w + n ∧ x / b.page = p) ∧
    (∀ x, B0 + w ≤ x → x < B0 + w + n → b'.bit (x / b.page) = true) :=
  ⟨fun p h1 h2 => ((newly_dirty_iff hs he p).1 ⟨h1, h2⟩).2.2,
    fun _ h1 h2 => (he.bits _).trans (markedBits_of_mem b h1 h2)⟩

/-- a page that does not overlap the window keeps its bit -/
theorem untouched_pages_unchanged (hs : Setting m b B0) (he : Effect m b B0 m' b' w n) (p : Nat)
    (h : ¬ ∃ x, B0 + w ≤ x ∧ x < B0 + w + n ∧ x / b.page = p) : b'.bit p = b.bit p := by
  rw [he.bits, markedBits, decide_eq_false fun hc =>
    h ((pages_overlap_iff b.page _ n p hs.inv.page_pos hc.1).1 hc.2), Bool.or_false]

/-- nothing stored (`n = 0`): nothing marked -/
theorem empty_window_marks_nothing (he : Effect m b B0 m' b' w 0) : ∀ p, b'.bit p = b.bit p := by
  intro p; rw [he.bits, markedBits_zero]

/-- a byte whose page does not overlap the window keeps its dirty status -/
theorem other_bytes_status (hs : Setting m b B0) (he : Effect m b B0 m' b' w n) (i : Nat)
    (h : ¬ ∃ x, B0 + w ≤ x ∧ x < B0 + w + n ∧ x / b.page = (B0 + i) / b.page) :
    dirty m' B0 i = dirty m B0 i := by
  rw [dirty_of_bm he.bm, dirty_of_bm hs.bm, he.page]
  exact untouched_pages_unchanged hs he _ h

/-- when the window ends exactly on a page boundary, the page that
    starts there is NOT newly marked (no off-by-one in `start + len - 1`) -/
theorem page_end_exact (hs : Setting m b B0) (he : Effect m b B0 m' b' w n)
    (hend : (B0 + w + n) % b.page = 0) :
    b'.bit ((B0 + w + n) / b.page) = b.bit ((B0 + w + n) / b.page) := by
  apply untouched_pages_unchanged hs he
  rintro ⟨x, -, h2, h3⟩
  -- `x < B0 + w + n = q * page` puts `x` on a page before `q`
  rw [← Nat.div_mul_cancel (Nat.dvd_of_mod_eq_zero hend),
    ← Nat.div_lt_iff_lt_mul hs.inv.page_pos] at h2
  omega

/-- no page before the first page of the window is newly marked -/
theorem page_start_exact (hs : Setting m b B0) (he : Effect m b B0 m' b' w n) (p : Nat)
    (hp : p < (B0 + w) / b.page) : b'.bit p = b.bit p := by
  apply untouched_pages_unchanged hs he
  rintro ⟨x, h1, -, rfl⟩
  have : (B0 + w) / b.page ≤ x / b.page := Nat.div_le_div_right h1
  omega

end precise

/-- precision of every mutating operation (over `applyW`): bytes outside the window
    `[winStart, winStart + n)` are unchanged, the window lies inside the accessor, and the
    newly dirty pages are exactly the clean pages overlapping the window -/
theorem precise_step {m : Mem} {b : ABitmap} {B0 : Nat} (hs : Setting m b B0) {a : Acc}
    (ht : Tracks m B0 a) {op : WOp} {m' : Mem} (h : applyW m a op = .ok m') :
    ∃ b' n, m'.bm = some b' ∧ b'.page = b.page ∧
      (n = 0 ∨ winStart m a op + n ≤ a.lo - m.base + a.bytes) ∧
      (∀ i, (i < winStart m a op ∨ winStart m a op + n ≤ i) → m'.bytes[i]? = m.bytes[i]?) ∧
      (∀ p, (b'.bit p = true ∧ b.bit p = false) ↔
        (b.bit p = false ∧ 0 < n ∧
          ∃ x, B0 + winStart m a op ≤ x ∧ x < B0 + winStart m a op + n ∧ x / b.page = p)) := by
  obtain ⟨b', n, he, hin⟩ := C05.step_marks_written hs ht h
  exact ⟨b', n, he.bm, he.page, hin, he.outside, newly_dirty_iff hs he⟩

/-- in particular the marks of an operation never leave the pages of the accessor it
    was applied through -/
theorem marks_confined_to_accessor {m : Mem} {b : ABitmap} {B0 : Nat} (hs : Setting m b B0)
    {a : Acc} (ht : Tracks m B0 a) {op : WOp} {m' : Mem} (h : applyW m a op = .ok m') :
    ∃ b', m'.bm = some b' ∧ ∀ p, b'.bit p = true → b.bit p = false →
      ∃ x, B0 + (a.lo - m.base) ≤ x ∧ x < B0 + (a.lo - m.base) + a.bytes ∧ x / b.page = p := by
  obtain ⟨b', n, he, hin⟩ := C05.step_marks_written hs ht h
  refine ⟨b', he.bm, ?_⟩
  intro p h1 h2
  obtain ⟨-, hn, x, x1, x2, x3⟩ := (newly_dirty_iff hs he p).1 ⟨h1, h2⟩
  refine ⟨x, Nat.le_trans (Nat.add_le_add_left (Nat.le_add_right ..) _) x1,
    Nat.lt_of_lt_of_le x2 ?_, x3⟩
  rw [Nat.add_assoc, Nat.add_assoc]
  exact Nat.add_le_add_left (hin.resolve_left (Nat.ne_of_gt hn)) B0

/-- `precise` for `Bytes::write` by name: a write that stored `n > 0` bytes at offset
    `addr` of a tracked slice newly marks only pages overlapping
    `[B0 + o + addr, B0 + o + addr + n)`, `o = s.addr - m.base`, and all of those are dirty -/
theorem precise_write {m : Mem} {b : ABitmap} {B0 : Nat} (hs : Setting m b B0) {s : VSlice}
    (ht : Tracks m B0 (.sl s)) {buf : List UInt8} {addr n : Nat} {m' : Mem}
    (h : s.write m buf addr = .ok (m', n)) (hn : 0 < n) :
    ∃ b', m'.bm = some b' ∧
      (∀ p, b'.bit p = true → b.bit p = false →
        ∃ x, B0 + (s.addr - m.base + addr) ≤ x ∧ x < B0 + (s.addr - m.base + addr) + n ∧
          x / b.page = p) ∧
      (∀ x, B0 + (s.addr - m.base + addr) ≤ x → x < B0 + (s.addr - m.base + addr) + n →
        b'.bit (x / b.page) = true) := by
  obtain ⟨-, b', he⟩ := C05.write_marks hs ht h
  exact ⟨b', he.bm, precise hs he hn⟩

/-- `precise` for `Bytes::store` by name (the mark is made on the parent slice at `addr`) -/
theorem precise_store {m : Mem} {b : ABitmap} {B0 : Nat} (hs : Setting m b B0) {s : VSlice}
    (ht : Tracks m B0 (.sl s)) {val : List UInt8} {t : Ty} {addr : Nat} {m' : Mem}
    (h : s.store m val t addr = .ok m') (hn : 0 < t.size) :
    ∃ b', m'.bm = some b' ∧
      (∀ p, b'.bit p = true → b.bit p = false →
        ∃ x, B0 + (s.addr - m.base + addr) ≤ x ∧ x < B0 + (s.addr - m.base + addr) + t.size ∧
          x / b.page = p) ∧
      (∀ x, B0 + (s.addr - m.base + addr) ≤ x → x < B0 + (s.addr - m.base + addr) + t.size →
        b'.bit (x / b.page) = true) := by
  obtain ⟨-, b', he⟩ := C05.store_marks hs ht h
  exact ⟨b', he.bm, precise hs he hn⟩

/-! ## §3 reads mark nothing -/

/-! Remark (`reads_mark_nothing`, checked by the type checker): the read-type operations
    take the container as an argument and return NO container — there is no state in
    their result in which a mark could be observed. -/
example : Mem → VSlice → Nat → Nat → Res (List UInt8) := VSlice.read
example : Mem → VSlice → Nat → Nat → Res (List UInt8) := VSlice.readSlice
example : Mem → VSlice → Ty → Nat → Res (List UInt8) := VSlice.readObj
example : Mem → VSlice → Ty → Nat → Res (List UInt8) := VSlice.load
example : Mem → VSlice → Ty → Nat → Res (Nat × List UInt8) := VSlice.copyTo
example : Mem → VRef → Res (List UInt8) := VRef.load
example : Mem → VArr → Nat → Res (List UInt8) := VArr.load
example : Mem → VArr → Nat → Res (Nat × List UInt8) := VArr.copyTo
example : Mem → VSlice → Nat → Res (List UInt8) := copyFromVolatileSlice
example : Writer → Mem → VSlice → Writer × Res Nat := Writer.writeVolatile
example : Writer → Mem → VSlice → Writer × Res Nat := Writer.writeRetry
example : Writer → Mem → VSlice → Writer × Res Unit := Writer.writeAll
example : Mem → VSlice → Nat → Writer → Nat → Writer × Res Nat := VSlice.writeVolatileTo
example : Mem → VSlice → Nat → Writer → Nat → Writer × Res Unit := VSlice.writeAllVolatileTo
example : Acc → DOp → Res Acc := C01.derive

theorem rvFail_nonfd (m : Mem) (s : VSlice) (r : Reader) (k : Nat) (hk : r.kind ≠ .fd) :
    (Reader.rvFail r m s k).1 = m :=
  (rvFail_fst r m s k).resolve_right fun h => hk h.1

/-- the stream-in calls are the only functions besides the mutating ones that return a
    container; when they transfer nothing they return the container they were given:
    a `zero` call, and a failing call of any stream that is not a raw descriptor -/
theorem reads_mark_nothing (r : Reader) (m : Mem) (s : VSlice) (beh : Beh) (rest : List Beh)
    (hsc : r.script = beh :: rest)
    (hb : beh = .zero ∨ ((beh = .fail ∨ beh = .eintr) ∧ r.kind ≠ .fd)) :
    (r.readVolatile m s).1 = m := by
  rw [Reader.readVolatile_eq_xfer, hsc]
  rcases hb with rfl | ⟨rfl | rfl, hk⟩
  · exact congrArg Prod.fst (Reader.rvCopy_zero _ m s)
  · exact rvFail_nonfd m s _ _ hk
  · exact rvFail_nonfd m s _ _ hk

/-- `read_exact_volatile` of a `&[u8]` / `Cursor` that is too short: refused up front -/
theorem readExact_eof_marks_nothing (r : Reader) (m : Mem) (s : VSlice)
    (hk : r.kind = .slice ∨ r.kind = .cursor) (h : s.size > r.avail.length) :
    r.readExact m s = (m, r, .err (ioErr IoKind.unexpectedEof)) := by
  rw [Reader.readExact_override r m s hk, if_pos h]
  rfl

/-! ## §4 rejected operations mark nothing -/

/-! Remark: `copyToVolatileSlice`, `VSlice.write`, `VSlice.store`, `VSlice.copyFrom`,
    `VSlice.copyToSlice`, `VRef.store`, `VArr.store`, `VArr.copyFrom`, `VArr.copyToSlice`
    have result type `Res (Mem × _)` / `Res Mem`: an `.err e` answer carries no new
    container — the caller keeps `m`.  The one function that returns a container next
    to an error is `writeSlice` (and `writeObj`), treated below. -/
example : Mem → VSlice → List UInt8 → Nat → Res (Mem × Nat) := VSlice.write
example : Mem → VSlice → List UInt8 → Ty → Nat → Res Mem := VSlice.store
example : Mem → VSlice → List UInt8 → Nat → Mem × Res Unit := VSlice.writeSlice

theorem write_err_kind {m : Mem} {s : VSlice} {buf : List UInt8} {addr : Nat} {e : Err}
    (h : s.write m buf addr = .err e) : e = .outOfBounds ∨ e = .overflow :=
  Dirty.write_err_kind h

/-- `write_slice` answering any error other than `PartialBuffer`
    (or a panic) returns the container it was given — bytes and bitmap (no hypotheses) -/
theorem rejected_marks_nothing (m : Mem) (s : VSlice) (buf : List UInt8) (addr : Nat)
    (h : ∀ x c, (s.writeSlice m buf addr).2 ≠ .err (.partialBuffer x c))
    (hok : (s.writeSlice m buf addr).2 ≠ .ok ()) : (s.writeSlice m buf addr).1 = m := by
  cases hw : s.write m buf addr with
  | ok p =>
    rw [DataLemmas.writeSlice_of_ok hw] at h hok
    by_cases hc : p.2 ≠ buf.length
    · exact absurd (if_pos hc) (h _ _)
    · exact absurd (if_neg hc) hok
  | err e => rw [DataLemmas.writeSlice_of_err hw]
  | panic =>
    unfold VSlice.writeSlice
    rw [hw]

/-- the error of `write_slice` is `OutOfBounds`, `Overflow` (nothing stored, container
    unchanged) or `PartialBuffer` -/
theorem writeSlice_err_kind (m : Mem) (s : VSlice) (buf : List UInt8) (addr : Nat) (e : Err)
    (h : (s.writeSlice m buf addr).2 = .err e) :
    ((e = .outOfBounds ∨ e = .overflow) ∧ (s.writeSlice m buf addr).1 = m) ∨
    ∃ c, e = .partialBuffer buf.length c := by
  cases hw : s.write m buf addr with
  | ok p =>
    rw [DataLemmas.writeSlice_of_ok hw] at h
    by_cases hc : p.2 ≠ buf.length
    · exact .inr ⟨p.2, (Res.err.inj ((if_pos hc).symm.trans h)).symm⟩
    · exact absurd ((if_neg hc).symm.trans h) nofun
  | err e' =>
    rw [DataLemmas.writeSlice_of_err hw] at h ⊢
    cases h
    exact .inl ⟨Dirty.write_err_kind hw, rfl⟩
  | panic =>
    rw [VSlice.writeSlice, hw] at h
    cases h

/-- for `write_slice` answering `PartialBuffer { expected, completed }` the marks are
    exactly those of the stored prefix `[o + addr, o + addr + completed)` -/
theorem partial_marks_prefix {m : Mem} {b : ABitmap} {B0 : Nat} (hs : Setting m b B0)
    {s : VSlice} (ht : Tracks m B0 (.sl s)) (buf : List UInt8) (addr x c : Nat)
    (h : (s.writeSlice m buf addr).2 = .err (.partialBuffer x c)) :
    x = buf.length ∧ c < buf.length ∧
    ∃ b', Effect m b B0 (s.writeSlice m buf addr).1 b' (s.addr - m.base + addr) c := by
  obtain ⟨n, b', he, -, -, hp, -⟩ := C05.writeSlice_marks hs ht buf addr
  obtain ⟨h1, h2, h3⟩ := hp x c h
  subst h2
  exact ⟨h1, h3, b', he⟩

/-- in a history (`C05.stepH`) a rejected operation leaves container, bitmap and snapshot alone -/
theorem rejected_step_marks_nothing {m : Mem} {a : Acc} {op : WOp} {e : Err} (snap : List UInt8)
    (h : applyW m a op = .err e) : C05.stepH (m, snap) (.write a op) = .ok (m, snap) := by
  simp only [C05.stepH, h]

/-- … and so does a read step -/
theorem read_step_marks_nothing (st : Mem × List UInt8) : C05.stepH st .read = .ok st := rfl

/-- `mark_dirty(off, 0)` marks nothing (no hypotheses) -/
theorem zero_len_marks_nothing (m : Mem) (bmBase off : Nat) : m.mark bmBase off 0 = .ok m :=
  DataLemmas.mark_zero m bmBase off

/-! ## §5 non-vacuity -/

theorem dMem_write (buf : List UInt8) (addr n : Nat) (h : addr < 300)
    (hn : min (300 - addr) buf.length = n) :
    ∃ m' b', (rootAt dMem 0).write dMem buf addr = .ok (m', n) ∧
      Effect dMem (ABitmap.new 300 128) 0 m' b' addr n := by
  have ht : Tracks dMem 0 (.sl (rootAt dMem 0)) := C05.root_tracks dMem 0 (by decide)
  have hsz : (rootAt dMem 0).size = 300 := dMem_len
  obtain ⟨m', hm'⟩ := C05.write_ok dMem_setting ht buf addr (by rw [hsz]; exact h)
  rw [hsz, hn] at hm'
  obtain ⟨-, b', he⟩ := C05.write_marks dMem_setting ht hm'
  rw [show (rootAt dMem 0).addr = dMem.base from rfl, Nat.sub_self, Nat.zero_add] at he
  exact ⟨m', b', hm', he⟩

/-- `dMem`: 300 bytes, 128-byte pages.  A 2-byte write at container bytes 126, 127 ends
    exactly at the page boundary 128: page 0 is marked, page 1 is not. -/
theorem ex_page_end :
    ∃ m' b', (rootAt dMem 0).write dMem [1, 2] 126 = .ok (m', 2) ∧ m'.bm = some b' ∧
      b'.bit 0 = true ∧ b'.bit 1 = false := by
  obtain ⟨m', b', hm', he⟩ := dMem_write [1, 2] 126 2 (by decide) (by decide)
  refine ⟨m', b', hm', he.bm, ?_, ?_⟩
  · rw [he.bits]; decide
  · have := page_end_exact dMem_setting he (by decide)
    have h128 : (0 + 126 + 2) / (ABitmap.new 300 128).page = 1 := by decide
    rw [h128] at this
    rw [this]; decide

/-- a 3-byte write at 126 crosses into page 1: both pages are marked, page 2 is not -/
theorem ex_page_cross :
    ∃ m' b', (rootAt dMem 0).write dMem [1, 2, 3] 126 = .ok (m', 3) ∧ m'.bm = some b' ∧
      b'.bit 0 = true ∧ b'.bit 1 = true ∧ b'.bit 2 = false := by
  obtain ⟨m', b', hm', he⟩ := dMem_write [1, 2, 3] 126 3 (by decide) (by decide)
  refine ⟨m', b', hm', he.bm, ?_⟩
  simp only [he.bits]
  decide

/-- a `PartialBuffer` write: 10 bytes offered at offset 295 of the 300-byte root: 5 are
    stored; the error says so and only the last page is marked -/
theorem ex_partial :
    ∃ b', (rootAt dMem 0).writeSlice dMem (List.replicate 10 7) 295
        = ((((rootAt dMem 0).writeSlice dMem (List.replicate 10 7) 295)).1,
            .err (.partialBuffer 10 5)) ∧
      (((rootAt dMem 0).writeSlice dMem (List.replicate 10 7) 295)).1.bm = some b' ∧
      b'.bit 2 = true ∧ b'.bit 1 = false ∧ b'.bit 0 = false := by
  obtain ⟨m', b', hm', he⟩ := dMem_write (List.replicate 10 7) 295 5 (by decide) (by decide)
  have hws : (rootAt dMem 0).writeSlice dMem (List.replicate 10 7) 295
      = (m', .err (.partialBuffer 10 5)) := DataLemmas.writeSlice_of_ok hm'
  rw [hws]
  refine ⟨b', rfl, he.bm, ?_⟩
  simp only [he.bits]
  decide

end VmMem.C16

#print axioms VmMem.C16.pages_overlap_iff
#print axioms VmMem.C16.newly_dirty_iff
#print axioms VmMem.C16.precise
#print axioms VmMem.C16.untouched_pages_unchanged
#print axioms VmMem.C16.empty_window_marks_nothing
#print axioms VmMem.C16.other_bytes_status
#print axioms VmMem.C16.page_end_exact
#print axioms VmMem.C16.page_start_exact
#print axioms VmMem.C16.precise_step
#print axioms VmMem.C16.marks_confined_to_accessor
#print axioms VmMem.C16.reads_mark_nothing
#print axioms VmMem.C16.readExact_eof_marks_nothing
#print axioms VmMem.C16.write_err_kind
#print axioms VmMem.C16.rejected_marks_nothing
#print axioms VmMem.C16.writeSlice_err_kind
#print axioms VmMem.C16.partial_marks_prefix
#print axioms VmMem.C16.rejected_step_marks_nothing
#print axioms VmMem.C16.read_step_marks_nothing
#print axioms VmMem.C16.precise_write
#print axioms VmMem.C16.precise_store
#print axioms VmMem.C16.rvFail_nonfd
#print axioms VmMem.C16.zero_len_marks_nothing
#print axioms VmMem.C16.ex_page_end
#print axioms VmMem.C16.ex_page_cross
#print axioms VmMem.C16.ex_partial
