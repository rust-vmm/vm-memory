/-
  VmMem.Props.C15 — region construction accepts exactly the safe requests and builds what
  was asked.

  `checkFileOffset`, `build`/`buildRaw`, `guestRegionNew`: acceptance ↔ the arithmetic
  conditions of the source, every error variant ↔ its cause in the source's precedence,
  a successful build reports exactly the request, a failed build maps nothing.
  Xen: the accepted flag words are exactly {0x0, 0x1, 0x2, 0xa}, for all 2^32 words
  (a word without unknown bits is at most 11, which leaves a table of twelve: `forall_known`);
  `xenValidate` accepts exactly the requests the source accepts.
-/
import VmMem.Model.Construct
import VmMem.Lemmas.ConstructLemmas
namespace VmMem.C15
open VmMem VmMem.Construct

/-! ### 1. `check_file_offset` -/

theorem checkFileOffset_eq (f : FileReq) (size : Nat) :
    checkFileOffset f size =
      if f.start + size < U then (if f.fileLen < f.start + size then .error .mappingPastEof else .ok ())
      else .error .invalidOffsetLength := by
  unfold checkFileOffset
  split
  · rw [if_neg (Nat.not_lt.2 ((checkedAdd_eq_none_iff _ _).1 ‹_›))]
  · obtain ⟨h, rfl⟩ := (checkedAdd_eq_some_iff _ _ _).1 ‹_›
    rw [if_pos h]

/-- `check_file_offset` has exactly three outcomes, each with its cause -/
theorem checkFileOffset_trich (f : FileReq) (size : Nat) :
    (checkFileOffset f size = .ok () ∧ f.start + size < U ∧ f.start + size ≤ f.fileLen) ∨
    (checkFileOffset f size = .error .invalidOffsetLength ∧ U ≤ f.start + size) ∨
    (checkFileOffset f size = .error .mappingPastEof ∧ f.start + size < U ∧ f.fileLen < f.start + size) := by
  rw [checkFileOffset_eq]
  by_cases h1 : f.start + size < U <;> by_cases h2 : f.fileLen < f.start + size <;> simp [h1, h2] <;> omega

theorem checkFileOffset_ok_iff (f : FileReq) (size : Nat) :
    checkFileOffset f size = .ok () ↔ f.start + size < U ∧ f.start + size ≤ f.fileLen := by
  rcases checkFileOffset_trich f size with ⟨hc, h⟩ | ⟨hc, h⟩ | ⟨hc, h⟩ <;> simp [hc] <;> omega

theorem checkFileOffset_invalidOffsetLength_iff (f : FileReq) (size : Nat) :
    checkFileOffset f size = .error .invalidOffsetLength ↔ U ≤ f.start + size := by
  rcases checkFileOffset_trich f size with ⟨hc, h⟩ | ⟨hc, h⟩ | ⟨hc, h⟩ <;> simp [hc] <;> omega

theorem checkFileOffset_mappingPastEof_iff (f : FileReq) (size : Nat) :
    checkFileOffset f size = .error .mappingPastEof ↔ f.start + size < U ∧ f.fileLen < f.start + size := by
  rcases checkFileOffset_trich f size with ⟨hc, h⟩ | ⟨hc, h⟩ | ⟨hc, h⟩ <;> simp [hc] <;> omega

/-! ### 2. `MmapRegionBuilder::build` -/

/-- the file part of a request fits: what `check_file_offset` accepts, and nothing to check without a file -/
def FileFits (r : BuildReq) : Prop := ∀ f, r.file = some f → f.start + r.size < U ∧ f.start + r.size ≤ f.fileLen

def built (r : BuildReq) (addr : Nat) (owned : Bool) : Built :=
  { addr := addr, size := r.size, prot := r.prot, flags := r.flags, fileStart := r.file.map (·.start), owned := owned }

/-- every outcome of `build` with its cause, in the source's order of checks (`build_raw`, `MAP_FIXED`,
    `check_file_offset`, the reply of `mmap`); the flag says whether `mmap` was called -/
inductive BuildCase (r : BuildReq) (page : Nat) (kernel : Option Nat) : Except BErr Built × Bool → Prop
  | invalidPointer {p} : r.rawPtr = some p → p % page ≠ 0 → BuildCase r page kernel (.error .invalidPointer, false)
  | raw {p} : r.rawPtr = some p → p % page = 0 → BuildCase r page kernel (.ok (built r p false), false)
  | mapFixed : r.rawPtr = none → r.flags &&& MAP_FIXED ≠ 0 → BuildCase r page kernel (.error .mapFixed, false)
  | invalidOffsetLength {f} : r.rawPtr = none → r.flags &&& MAP_FIXED = 0 → r.file = some f → U ≤ f.start + r.size →
      BuildCase r page kernel (.error .invalidOffsetLength, false)
  | mappingPastEof {f} : r.rawPtr = none → r.flags &&& MAP_FIXED = 0 → r.file = some f → f.start + r.size < U →
      f.fileLen < f.start + r.size → BuildCase r page kernel (.error .mappingPastEof, false)
  | mmapFailed : r.rawPtr = none → r.flags &&& MAP_FIXED = 0 → FileFits r → kernel = none →
      BuildCase r page kernel (.error .mmapFailed, true)
  | mapped {a} : r.rawPtr = none → r.flags &&& MAP_FIXED = 0 → FileFits r → kernel = some a →
      BuildCase r page kernel (.ok (built r a true), true)

theorem build_of_case {r : BuildReq} {page : Nat} {kernel : Option Nat} {o : Except BErr Built × Bool}
    (h : BuildCase r page kernel o) : build r page kernel = o := by
  rcases r with ⟨size, prot, flags, file, rawPtr⟩
  cases h with
  | invalidPointer hp ha =>
    cases hp
    simp [build, buildRaw, ha]
  | raw hp ha =>
    cases hp
    simp [build, buildRaw, ha, built]
  | mapFixed hp hf =>
    cases hp
    simp [build, hf]
  | invalidOffsetLength hp hf hx h =>
    cases hp
    cases hx
    simp [build, hf, (checkFileOffset_invalidOffsetLength_iff _ _).2 h]
  | mappingPastEof hp hf hx h1 h2 =>
    cases hp
    cases hx
    simp [build, hf, (checkFileOffset_mappingPastEof_iff _ _).2 ⟨h1, h2⟩]
  | mmapFailed hp hf hx hk =>
    cases hp
    cases hk
    cases file with
    | none => simp [build, hf]
    | some f => simp [build, hf, (checkFileOffset_ok_iff _ _).2 (hx f rfl)]
  | mapped hp hf hx hk =>
    cases hp
    cases hk
    cases file with
    | none => simp [build, hf, built]
    | some f => simp [build, hf, (checkFileOffset_ok_iff _ _).2 (hx f rfl), built]

theorem build_case (r : BuildReq) (page : Nat) (kernel : Option Nat) : BuildCase r page kernel (build r page kernel) := by
  have key : ∀ {o}, BuildCase r page kernel o → BuildCase r page kernel (build r page kernel) :=
    fun h => build_of_case h ▸ h
  cases hp : r.rawPtr with
  | some p =>
    by_cases ha : p % page = 0
    · exact key (.raw hp ha)
    · exact key (.invalidPointer hp ha)
  | none =>
    by_cases hf : r.flags &&& MAP_FIXED = 0
    · -- the kernel's reply matters only once the file part fits
      have fits (hx : FileFits r) : BuildCase r page kernel (build r page kernel) := by
        cases hk : kernel with
        | none => exact hk ▸ key (.mmapFailed hp hf hx hk)
        | some a => exact hk ▸ key (.mapped hp hf hx hk)
      cases hx : r.file with
      | none => exact fits (fun f h => nomatch hx.symm.trans h)
      | some f =>
        rcases checkFileOffset_trich f r.size with ⟨_, h⟩ | ⟨_, h⟩ | ⟨_, h1, h2⟩
        · exact fits (fun f' h' => Option.some.inj (hx.symm.trans h') ▸ h)
        · exact key (.invalidOffsetLength hp hf hx h)
        · exact key (.mappingPastEof hp hf hx h1 h2)
    · exact key (.mapFixed hp hf)

theorem build_iff {r : BuildReq} {page : Nat} {kernel : Option Nat} {o : Except BErr Built × Bool} :
    build r page kernel = o ↔ BuildCase r page kernel o :=
  ⟨fun h => h ▸ build_case r page kernel, build_of_case⟩

/-- the form the statements below need: `cases` on the right-hand side leaves only the constructors whose outcome
    has the shape of `x` -/
theorem build_fst_iff {r : BuildReq} {page : Nat} {kernel : Option Nat} {x : Except BErr Built} :
    (build r page kernel).1 = x ↔ ∃ c, BuildCase r page kernel (x, c) :=
  ⟨fun h => ⟨_, build_iff.1 (Prod.ext h rfl)⟩, fun ⟨_, h⟩ => by rw [build_of_case h]⟩

theorem build_ok_iff (r : BuildReq) (page : Nat) (kernel : Option Nat) :
    (∃ b, (build r page kernel).1 = .ok b) ↔
    (match r.rawPtr with
     | some p => p % page = 0
     | none => r.flags &&& MAP_FIXED = 0 ∧
         (∀ f, r.file = some f → f.start + r.size < U ∧ f.start + r.size ≤ f.fileLen) ∧
         kernel.isSome) := by
  constructor
  · rintro ⟨b, h⟩
    obtain ⟨_, hc⟩ := build_fst_iff.1 h
    cases hc with
    | raw hp ha =>
      rw [hp]
      exact ha
    | mapped hp hf hx hk =>
      rw [hp, hk]
      exact ⟨hf, hx, rfl⟩
  · intro h
    cases hp : r.rawPtr with
    | some p =>
      rw [hp] at h
      exact ⟨_, build_fst_iff.2 ⟨_, .raw hp h⟩⟩
    | none =>
      rw [hp] at h
      obtain ⟨hf, hx, hk⟩ := h
      obtain ⟨a, hk⟩ := Option.isSome_iff_exists.1 hk
      exact ⟨_, build_fst_iff.2 ⟨_, .mapped hp hf hx hk⟩⟩

theorem build_invalidPointer_iff (r : BuildReq) (page : Nat) (kernel : Option Nat) :
    (build r page kernel).1 = .error .invalidPointer ↔ ∃ p, r.rawPtr = some p ∧ p % page ≠ 0 := by
  rw [build_fst_iff]
  exact ⟨fun ⟨_, .invalidPointer hp ha⟩ => ⟨_, hp, ha⟩, fun ⟨_, hp, ha⟩ => ⟨_, .invalidPointer hp ha⟩⟩

theorem build_mapFixed_iff (r : BuildReq) (page : Nat) (kernel : Option Nat) :
    (build r page kernel).1 = .error .mapFixed ↔ r.rawPtr = none ∧ r.flags &&& MAP_FIXED ≠ 0 := by
  rw [build_fst_iff]
  exact ⟨fun ⟨_, .mapFixed hp hf⟩ => ⟨hp, hf⟩, fun ⟨hp, hf⟩ => ⟨_, .mapFixed hp hf⟩⟩

theorem build_invalidOffsetLength_iff (r : BuildReq) (page : Nat) (kernel : Option Nat) :
    (build r page kernel).1 = .error .invalidOffsetLength ↔
    r.rawPtr = none ∧ r.flags &&& MAP_FIXED = 0 ∧ ∃ f, r.file = some f ∧ U ≤ f.start + r.size := by
  rw [build_fst_iff]
  exact ⟨fun ⟨_, .invalidOffsetLength hp hf hx h⟩ => ⟨hp, hf, _, hx, h⟩,
    fun ⟨hp, hf, _, hx, h⟩ => ⟨_, .invalidOffsetLength hp hf hx h⟩⟩

theorem build_mappingPastEof_iff (r : BuildReq) (page : Nat) (kernel : Option Nat) :
    (build r page kernel).1 = .error .mappingPastEof ↔
    r.rawPtr = none ∧ r.flags &&& MAP_FIXED = 0 ∧
      ∃ f, r.file = some f ∧ f.start + r.size < U ∧ f.fileLen < f.start + r.size := by
  rw [build_fst_iff]
  exact ⟨fun ⟨_, .mappingPastEof hp hf hx h1 h2⟩ => ⟨hp, hf, _, hx, h1, h2⟩,
    fun ⟨hp, hf, _, hx, h1, h2⟩ => ⟨_, .mappingPastEof hp hf hx h1 h2⟩⟩

theorem build_mmapFailed_iff (r : BuildReq) (page : Nat) (kernel : Option Nat) :
    (build r page kernel).1 = .error .mmapFailed ↔
    r.rawPtr = none ∧ r.flags &&& MAP_FIXED = 0 ∧
      (∀ f, r.file = some f → f.start + r.size < U ∧ f.start + r.size ≤ f.fileLen) ∧ kernel = none := by
  rw [build_fst_iff]
  exact ⟨fun ⟨_, .mmapFailed hp hf hx hk⟩ => ⟨hp, hf, hx, hk⟩, fun ⟨hp, hf, hx, hk⟩ => ⟨_, .mmapFailed hp hf hx hk⟩⟩

/-- `build` can fail only with one of these five variants -/
theorem build_error_cases (r : BuildReq) (page : Nat) (kernel : Option Nat) (e : BErr)
    (h : (build r page kernel).1 = .error e) :
    e = .invalidPointer ∨ e = .mapFixed ∨ e = .invalidOffsetLength ∨ e = .mappingPastEof ∨ e = .mmapFailed := by
  obtain ⟨_, hc⟩ := build_fst_iff.1 h
  cases hc <;> simp

/-! ### 3. a successful build reports exactly the request -/

theorem built_reports_request (r : BuildReq) (page : Nat) (kernel : Option Nat) (b : Built)
    (h : (build r page kernel).1 = .ok b) :
    b.size = r.size ∧ b.prot = r.prot ∧ b.flags = r.flags ∧ b.fileStart = r.file.map (·.start) ∧
    b.owned = r.rawPtr.isNone ∧
    (r.rawPtr = none → some b.addr = kernel) ∧ (∀ p, r.rawPtr = some p → b.addr = p) := by
  obtain ⟨_, hc⟩ := build_fst_iff.1 h
  cases hc with
  | raw hp ha => simp [built, hp]
  | mapped hp hf hx hk => simp [built, hp, hk]

/-! ### 4. a failed build maps nothing -/

theorem failed_build_maps_nothing (r : BuildReq) (page : Nat) (kernel : Option Nat) (e : BErr)
    (h : (build r page kernel).1 = .error e) :
    (build r page kernel).2 = false ∨ kernel = none := by
  obtain ⟨_, hc⟩ := build_fst_iff.1 h
  rw [build_of_case hc]
  cases hc with
  | mmapFailed _ _ _ hk => exact .inr hk
  | _ => exact .inl rfl

/-- `mmap` is called only after every check passed; so an error other than `mmapFailed`
    means `mmap` was never called -/
theorem failed_build_no_mmap_call (r : BuildReq) (page : Nat) (kernel : Option Nat) (e : BErr)
    (h : (build r page kernel).1 = .error e) (hne : e ≠ .mmapFailed) :
    (build r page kernel).2 = false := by
  obtain ⟨_, hc⟩ := build_fst_iff.1 h
  rw [build_of_case hc]
  cases hc with
  | mmapFailed => exact absurd rfl hne
  | _ => rfl

theorem raw_never_calls_mmap (r : BuildReq) (page : Nat) (kernel : Option Nat)
    (h : r.rawPtr.isSome) : (build r page kernel).2 = false := by
  obtain ⟨p, hp⟩ := Option.isSome_iff_exists.1 h
  simp only [build, hp]

/-! ### 5. `build_raw` alignment, `GuestRegionMmap::new` -/

theorem raw_requires_page_aligned (r : BuildReq) (page p : Nat) (kernel : Option Nat)
    (hp : r.rawPtr = some p) :
    ((∃ b, (build r page kernel).1 = .ok b) ↔ p % page = 0) ∧
    (p % page ≠ 0 → (build r page kernel).1 = .error .invalidPointer) :=
  ⟨by rw [build_ok_iff, hp], fun ha => build_fst_iff.2 ⟨_, .invalidPointer hp ha⟩⟩

theorem buildRaw_ok_iff (r : BuildReq) (page p : Nat) :
    (∃ b, buildRaw r page p = .ok b) ↔ p % page = 0 := by
  unfold buildRaw
  by_cases h : p % page = 0 <;> simp [h]

theorem guestRegionNew_ok_iff (b : Built) (base : Nat) :
    (∃ x, guestRegionNew b base = .ok x) ↔ base + b.size < U := by
  unfold guestRegionNew
  rw [← Nat.not_le, ← checkedAdd_eq_none_iff]
  split <;> simp [*]

theorem guestRegionNew_ok_val (b : Built) (base : Nat) (x : Built × Nat)
    (h : guestRegionNew b base = .ok x) : x = (b, base) := by
  unfold guestRegionNew at h
  split at h <;> cases h; rfl

theorem guestRegionNew_err_iff (b : Built) (base : Nat) :
    guestRegionNew b base = .error .invalidGuestRegion ↔ U ≤ base + b.size := by
  unfold guestRegionNew
  rw [← checkedAdd_eq_none_iff]
  split <;> simp [*]

/-! ### 6. Xen flag words -/

theorem fromBits_some_iff (w : Flags) : fromBits w = some w ↔ w &&& ~~~(0xb : Flags) = 0 := by
  rw [fromBits_eq_some_iff]; simp [XEN_KNOWN]

/-- only bits 0, 1, 3 may be set: the word is one of eight values -/
theorem fromBits_some_values (w : Flags) (h : fromBits w = some w) :
    w = 0x0 ∨ w = 0x1 ∨ w = 0x2 ∨ w = 0x3 ∨ w = 0x8 ∨ w = 0x9 ∨ w = 0xa ∨ w = 0xb :=
  forall_known (P := fun w => fromBits w = some w →
      w = 0x0 ∨ w = 0x1 ∨ w = 0x2 ∨ w = 0x3 ∨ w = 0x8 ∨ w = 0x9 ∨ w = 0xa ∨ w = 0xb)
    (by decide) w ((fromBits_eq_some_iff w w).1 h).1 h

theorem xen_flags_accept_iff (w : BitVec 32) :
    xenFlagsAccepted w = true ↔ (w = 0x0 ∨ w = 0x1 ∨ w = 0x2 ∨ w = 0xa) := by
  constructor
  · intro h
    have hk := ((fromBits_eq_some_iff w w).1 ((xenFlagsAccepted_iff w).1 h).1).1
    exact forall_known (P := fun w => xenFlagsAccepted w = true → w = 0x0 ∨ w = 0x1 ∨ w = 0x2 ∨ w = 0xa)
      (by decide) w hk h
  · rintro (e | e | e | e) <;> subst e <;> decide

/-- unknown bits ⇒ refused; the four remaining "known-bit" words are refused by `is_valid` -/
theorem xen_flags_refused_iff (w : BitVec 32) :
    xenFlagsAccepted w = false ↔ (w ≠ 0x0 ∧ w ≠ 0x1 ∧ w ≠ 0x2 ∧ w ≠ 0xa) := by
  rw [← Bool.not_eq_true, xen_flags_accept_iff, not_or, not_or, not_or]

/-! ### 7. `xenValidate` -/

/-- `Construct.xenRest_eq` with `fileCheck` written out, the form `xenValidate_unix` is stated in;
    the proofs below cite this one -/
theorem xenRest_eq (r : XenReq) :
    xenValidate.xenRest r =
      if xenFlagsAccepted r.xenFlags = true then
        (if isForeign r.xenFlags || isGrant r.xenFlags then validateFile r.file
         else match r.file with
           | some fr => checkFileOffset fr r.size
           | none => .ok ())
      else .error (.mmapFlags r.xenFlags.toNat) :=
  Construct.xenRest_eq r

theorem validateFile_ok_iff (file : Option FileReq) :
    validateFile file = .ok () ↔ ∃ f, file = some f ∧ f.start = 0 := by
  unfold validateFile
  cases file with
  | none => simp
  | some f => by_cases h : f.start = 0 <;> simp [h]

theorem fileCheck_error_cases {w : Flags} {file : Option FileReq} {size : Nat} {e : BErr}
    (h : fileCheck w file size = .error e) :
    e = .invalidFileOffset ∨ e = .invalidOffsetLength ∨ e = .mappingPastEof := by
  unfold fileCheck at h
  split at h
  · unfold validateFile at h
    split at h
    · cases h
      exact .inl rfl
    · split at h <;> cases h
      exact .inr (.inl rfl)
  · split at h
    · rename_i fr
      rcases checkFileOffset_trich fr size with ⟨hc, _⟩ | ⟨hc, _⟩ | ⟨hc, _⟩ <;> rw [hc] at h <;> cases h
      · exact .inr (.inl rfl)
      · exact .inr (.inr rfl)
    · cases h

theorem xenRest_ok_iff (r : XenReq) :
    xenValidate.xenRest r = .ok () ↔ xenFlagsAccepted r.xenFlags = true ∧
    (if (isForeign r.xenFlags || isGrant r.xenFlags) = true then ∃ f, r.file = some f ∧ f.start = 0
     else ∀ f, r.file = some f → f.start + r.size < U ∧ f.start + r.size ≤ f.fileLen) := by
  rw [xenRest_eq]
  by_cases ha : xenFlagsAccepted r.xenFlags = true
  · simp only [ha, if_true, true_and]
    by_cases hk : (isForeign r.xenFlags || isGrant r.xenFlags) = true
    · simp only [hk, if_true]; exact validateFile_ok_iff _
    · simp only [hk]
      cases hf : r.file with
      | none => simp
      | some f => simp [checkFileOffset_ok_iff]
  · simp [ha]

theorem xenValidate_ok_iff (r : XenReq) :
    xenValidate r = .ok () ↔
    (∀ f, r.flags = some f → f &&& MAP_FIXED = 0) ∧
    (r.xenFlags = 0x0 ∨ r.xenFlags = 0x1 ∨ r.xenFlags = 0x2 ∨ r.xenFlags = 0xa) ∧
    (if (isForeign r.xenFlags || isGrant r.xenFlags) = true then ∃ f, r.file = some f ∧ f.start = 0
     else ∀ f, r.file = some f → f.start + r.size < U ∧ f.start + r.size ≤ f.fileLen) := by
  rw [← xen_flags_accept_iff]
  have hr := xenRest_ok_iff r
  unfold xenValidate
  cases hfl : r.flags with
  | none => simp [hr]
  | some f =>
    by_cases hfix : f &&& MAP_FIXED = 0
    · simp [hfix, hr]
    · simp [hfix]

/-- `MAP_FIXED` is checked before anything else -/
theorem xenValidate_mapFixed_iff (r : XenReq) :
    xenValidate r = .error .mapFixed ↔ ∃ f, r.flags = some f ∧ f &&& MAP_FIXED ≠ 0 := by
  have hrest : xenValidate.xenRest r ≠ .error .mapFixed := by
    rw [xenRest_eq]
    intro h
    split at h
    · rcases fileCheck_error_cases h with e | e | e <;> cases e
    · cases h
  unfold xenValidate
  cases hfl : r.flags with
  | none => simp [hrest]
  | some f =>
    by_cases hfix : f &&& MAP_FIXED = 0
    · simp [hfix, hrest]
    · simp [hfix]

def NoMapFixed (r : XenReq) : Prop := ∀ f, r.flags = some f → f &&& MAP_FIXED = 0

theorem xenValidate_of_noMapFixed (r : XenReq) (h : NoMapFixed r) :
    xenValidate r = xenValidate.xenRest r := by
  unfold xenValidate
  cases hfl : r.flags with
  | none => rfl
  | some f => simp [h f hfl]

/-- unknown or contradictory flag words are refused with `MmapFlags(word)` -/
theorem xenValidate_mmapFlags_iff (r : XenReq) (hm : NoMapFixed r) (n : Nat) :
    xenValidate r = .error (.mmapFlags n) ↔
    n = r.xenFlags.toNat ∧
      r.xenFlags ≠ 0x0 ∧ r.xenFlags ≠ 0x1 ∧ r.xenFlags ≠ 0x2 ∧ r.xenFlags ≠ 0xa := by
  rw [xenValidate_of_noMapFixed r hm, xenRest_eq, ← xen_flags_refused_iff]
  cases ha : xenFlagsAccepted r.xenFlags with
  | false => simp [eq_comm]
  | true =>
    simp only [if_true]
    constructor
    · intro h
      rcases fileCheck_error_cases h with e | e | e <;> cases e
    · rintro ⟨_, h⟩
      cases h

theorem xenValidate_foreign_grant_no_file (r : XenReq) (hm : NoMapFixed r)
    (ha : xenFlagsAccepted r.xenFlags = true)
    (hk : (isForeign r.xenFlags || isGrant r.xenFlags) = true) (hf : r.file = none) :
    xenValidate r = .error .invalidFileOffset := by
  rw [xenValidate_of_noMapFixed r hm, xenRest_eq]
  simp [ha, hk, hf, validateFile]

theorem xenValidate_foreign_grant_offset (r : XenReq) (hm : NoMapFixed r)
    (ha : xenFlagsAccepted r.xenFlags = true)
    (hk : (isForeign r.xenFlags || isGrant r.xenFlags) = true) (f : FileReq) (hf : r.file = some f)
    (hs : f.start ≠ 0) :
    xenValidate r = .error .invalidOffsetLength := by
  rw [xenValidate_of_noMapFixed r hm, xenRest_eq]
  simp [ha, hk, hf, validateFile, hs]

theorem xenValidate_unix (r : XenReq) (hm : NoMapFixed r) (hu : r.xenFlags = 0x0) :
    xenValidate r = (match r.file with | some fr => checkFileOffset fr r.size | none => .ok ()) := by
  rw [xenValidate_of_noMapFixed r hm, xenRest_eq, hu]
  rfl

/-- the accepted non-unix words are exactly the foreign/grant ones -/
theorem accepted_foreign_or_grant_iff (w : Flags) (ha : xenFlagsAccepted w = true) :
    (isForeign w || isGrant w) = true ↔ w ≠ 0x0 := by
  rcases (xen_flags_accept_iff w).1 ha with e | e | e | e <;> subst e <;> decide

/-! ### non-vacuity -/

/-- a request ending exactly at the end of the file is accepted -/
example : checkFileOffset { fileLen := 0x3000, start := 0x1000 } 0x2000 = .ok () := by decide
/-- one byte past is refused -/
example : checkFileOffset { fileLen := 0x3000, start := 0x1000 } 0x2001 = .error .mappingPastEof := by decide
example : checkFileOffset { fileLen := 0x3000, start := 2 ^ 64 - 1 } 1 = .error .invalidOffsetLength := by decide
example : build { size := 0x2000, prot := 3, flags := 0x4001, file := some { fileLen := 0x3000, start := 0x1000 }, rawPtr := none }
    4096 (some 0x7000_0000) =
    (.ok { addr := 0x7000_0000, size := 0x2000, prot := 3, flags := 0x4001, fileStart := some 0x1000, owned := true }, true) := by
  decide
example : build { size := 0x2001, prot := 3, flags := 0x4001, file := some { fileLen := 0x3000, start := 0x1000 }, rawPtr := none }
    4096 (some 0x7000_0000) = (.error .mappingPastEof, false) := by decide
example : build { size := 0x2000, prot := 3, flags := 0x11, file := none, rawPtr := none } 4096 (some 0x7000_0000) =
    (.error .mapFixed, false) := by decide
example : build { size := 0x2000, prot := 3, flags := 0x1, file := none, rawPtr := some 0x1001 } 4096 none =
    (.error .invalidPointer, false) := by decide
example : xenFlagsAccepted 0xa = true := by decide
example : xenFlagsAccepted 0x0 = true := by decide
example : xenFlagsAccepted 0x1 = true := by decide
example : xenFlagsAccepted 0x2 = true := by decide
example : xenFlagsAccepted 0x3 = false := by decide
example : xenFlagsAccepted 0x9 = false := by decide
example : xenFlagsAccepted 0x8 = false := by decide
example : xenFlagsAccepted 0x10 = false := by decide
example : xenFlagsAccepted 0xb = false := by decide
example : xenValidate { size := 0x1000, file := some { fileLen := 0x1000, start := 0 }, flags := none, xenFlags := 0x1 } = .ok () := by decide
example : xenValidate { size := 0x1000, file := none, flags := none, xenFlags := 0x2 } = .error .invalidFileOffset := by decide
example : xenValidate { size := 0x1000, file := some { fileLen := 0x2000, start := 8 }, flags := none, xenFlags := 0xa } = .error .invalidOffsetLength := by decide
example : xenValidate { size := 0x1000, file := none, flags := some 0x11, xenFlags := 0x3 } = .error .mapFixed := by decide
example : xenValidate { size := 0x1000, file := none, flags := some 0x1, xenFlags := 0x3 } = .error (.mmapFlags 3) := by decide

end VmMem.C15

#print axioms VmMem.C15.checkFileOffset_ok_iff
#print axioms VmMem.C15.checkFileOffset_invalidOffsetLength_iff
#print axioms VmMem.C15.checkFileOffset_mappingPastEof_iff
#print axioms VmMem.C15.build_ok_iff
#print axioms VmMem.C15.build_invalidPointer_iff
#print axioms VmMem.C15.build_mapFixed_iff
#print axioms VmMem.C15.build_invalidOffsetLength_iff
#print axioms VmMem.C15.build_mappingPastEof_iff
#print axioms VmMem.C15.build_mmapFailed_iff
#print axioms VmMem.C15.build_error_cases
#print axioms VmMem.C15.built_reports_request
#print axioms VmMem.C15.failed_build_maps_nothing
#print axioms VmMem.C15.failed_build_no_mmap_call
#print axioms VmMem.C15.raw_never_calls_mmap
#print axioms VmMem.C15.raw_requires_page_aligned
#print axioms VmMem.C15.guestRegionNew_ok_iff
#print axioms VmMem.C15.guestRegionNew_err_iff
#print axioms VmMem.C15.fromBits_some_iff
#print axioms VmMem.C15.fromBits_some_values
#print axioms VmMem.C15.xen_flags_accept_iff
#print axioms VmMem.C15.xen_flags_refused_iff
#print axioms VmMem.C15.xenValidate_ok_iff
#print axioms VmMem.C15.xenValidate_mapFixed_iff
#print axioms VmMem.C15.xenValidate_mmapFlags_iff
#print axioms VmMem.C15.xenValidate_foreign_grant_no_file
#print axioms VmMem.C15.xenValidate_foreign_grant_offset
#print axioms VmMem.C15.xenValidate_unix
