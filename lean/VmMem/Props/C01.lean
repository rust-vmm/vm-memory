/-
  VmMem.Props.C01 — derived volatile accessors stay inside the memory they were
  derived from.

  Whatever offset / length / element count is requested, any view (`VSlice`),
  typed reference (`VRef`), array reference (`VArr`) or pointer guard derived from
  a piece of volatile memory designates only bytes inside the memory it was derived
  from; typed/atomic references are only produced for suitably aligned addresses; a
  request that does not fit — including one whose arithmetic would overflow — is
  answered with an error and never with an accessor (and never a panic); for all
  chains of derivations of any depth.

  Two invariants are provided, both preserved by every derivation step:
    * `Acc.WF  a := a.lo + a.bytes ≤ U ∧ a.bytes < U`          (minimal; all that the
      no-panic theorems need; `bytes < U` only says "the size is a `usize`"),
    * `Acc.WFI a := a.lo + a.bytes ≤ U ∧ a.bytes ≤ ISIZE_MAX`  (Rust's allocation
      invariant; implies `WF`).
  A per-kind invariant "arrays: `nelem * ty.size ≤ ISIZE_MAX`" would not be preserved by
  `sliceToArr` (`From<VolatileSlice> for VolatileArrayRef<u8>` performs no `isize` check), and
  `lo + bytes ≤ U` alone does not exclude the panic of `toArr` ⟶ `toSlice` on a slice of `U`
  bytes: the last two examples of §9.  Containment itself (`derive_inside`,
  `chain_inside`) needs no hypothesis at all.
-/
import VmMem.Model.Volatile
import VmMem.Lemmas.VolatileLemmas
namespace VmMem
namespace C01
open VolatileLemmas

/-! ## §0 definitions -/

/-- an accessor of any of the three kinds -/
inductive Acc
  | sl (s : VSlice)
  | rf (r : VRef)
  | ar (a : VArr)
  deriving Repr, DecidableEq, Inhabited

def Acc.lo : Acc → Nat
  | .sl s => s.addr
  | .rf r => r.addr
  | .ar a => a.addr

def Acc.bytes : Acc → Nat
  | .sl s => s.size
  | .rf r => r.ty.size
  | .ar a => a.nelem * a.ty.size

def Acc.hi (a : Acc) : Nat := a.lo + a.bytes

/-- base offset of the accessor's `BitmapSlice` -/
def Acc.bmBase : Acc → Nat
  | .sl s => s.bmBase
  | .rf r => r.bmBase
  | .ar a => a.bmBase

inductive DOp
  | sub (off cnt : Nat)
  | off (cnt : Nat)
  | splitL (mid : Nat)
  | splitR (mid : Nat)
  | getRef (off : Nat) (t : Ty)
  | getArr (off n : Nat) (t : Ty)
  | refToSlice
  | arrToSlice
  | refAt (i : Nat)
  | sliceToArr
  deriving Repr, DecidableEq, Inhabited

/-- functorial map of `Res`, written out so that no `LawfulMonad` instance is needed -/
def mapOk {α β} (f : α → β) : Res α → Res β
  | .ok a => .ok (f a)
  | .err e => .err e
  | .panic => .panic

theorem mapOk_eq_ok {α β} (f : α → β) (x : Res α) (b : β) :
    mapOk f x = .ok b ↔ ∃ a, x = .ok a ∧ f a = b := by
  cases x <;> simp [mapOk]

theorem mapOk_ne_panic {α β} (f : α → β) {x : Res α} (h : x ≠ .panic) : mapOk f x ≠ .panic := by
  cases x with
  | panic => exact absurd rfl h
  | _ => nofun

/-- apply one derivation step.  The model function is applied when the accessor kind
    matches.  A kind mismatch (e.g. `refAt` on a slice) is a *type error* in Rust, not
    a run-time event; the model answers it with `.err .hostAddressNotAvailable`, an
    error value none of the modelled volatile functions produces. -/
def derive : Acc → DOp → Res Acc
  | .sl s, .sub off cnt => mapOk Acc.sl (s.subslice off cnt)
  | .sl s, .off cnt => mapOk Acc.sl (s.offset cnt)
  | .sl s, .splitL mid => mapOk (fun p => Acc.sl p.1) (s.splitAt mid)
  | .sl s, .splitR mid => mapOk (fun p => Acc.sl p.2) (s.splitAt mid)
  | .sl s, .getRef off t => mapOk Acc.rf (s.getRef off t)
  | .sl s, .getArr off n t => mapOk Acc.ar (s.getArrayRef off n t)
  | .sl s, .sliceToArr => .ok (.ar s.toArr)
  | .rf r, .refToSlice => .ok (.sl r.toSlice)
  | .ar a, .arrToSlice => mapOk Acc.sl a.toSlice
  | .ar a, .refAt i => mapOk Acc.rf (a.refAt i)
  | _, _ => .err .hostAddressNotAvailable

def deriveChain (a : Acc) : List DOp → Res Acc
  | [] => .ok a
  | op :: ops => derive a op >>= fun a' => deriveChain a' ops

theorem deriveChain_eq_foldlM (a : Acc) (ops : List DOp) :
    deriveChain a ops = ops.foldlM derive a := by
  induction ops generalizing a with
  | nil => rfl
  | cons op ops ih =>
    simp only [deriveChain, List.foldlM_cons]
    congr 1
    funext a'
    exact ih a'

/-- well-formedness every accessor handed out satisfies: its extent does not wrap
    around the address space and its byte length is a `usize` value. -/
def Acc.WF (a : Acc) : Prop := a.lo + a.bytes ≤ U ∧ a.bytes < U

/-- the stronger invariant of real Rust allocations: the byte length fits `isize` -/
def Acc.WFI (a : Acc) : Prop := a.lo + a.bytes ≤ U ∧ a.bytes ≤ ISIZE_MAX

instance (a : Acc) : Decidable a.WF := by unfold Acc.WF; infer_instance
instance (a : Acc) : Decidable a.WFI := by unfold Acc.WFI; infer_instance

theorem Acc.WFI.wf {a : Acc} (h : a.WFI) : a.WF :=
  ⟨h.1, Nat.lt_of_le_of_lt h.2 ISIZE_MAX_lt_U⟩

def Acc.inside (b a : Acc) : Prop := a.lo ≤ b.lo ∧ b.hi ≤ a.hi

theorem Acc.inside_refl (a : Acc) : a.inside a := ⟨Nat.le_refl _, Nat.le_refl _⟩

theorem Acc.inside_trans {c b a : Acc} (h1 : c.inside b) (h2 : b.inside a) : c.inside a :=
  ⟨Nat.le_trans h2.1 h1.1, Nat.le_trans h1.2 h2.2⟩

theorem Acc.inside_bytes_le {b a : Acc} (h : b.inside a) : b.bytes ≤ a.bytes := by
  unfold Acc.inside Acc.hi at h
  omega

/-- both invariants are inherited by anything inside -/
theorem Acc.WF.of_inside {b a : Acc} (hwf : a.WF) (h : b.inside a) : b.WF :=
  ⟨Nat.le_trans h.2 hwf.1, Nat.lt_of_le_of_lt (Acc.inside_bytes_le h) hwf.2⟩

theorem Acc.WFI.of_inside {b a : Acc} (hwf : a.WFI) (h : b.inside a) : b.WFI :=
  ⟨Nat.le_trans h.2 hwf.1, Nat.le_trans (Acc.inside_bytes_le h) hwf.2⟩

/-! ## §1 per-function containment -/

/-- what one step does to an accessor: the start moves forward by some `δ`, the end stays inside,
    and the bitmap base moves by the same `δ` through `slice_at` (or is kept when `δ = 0`) -/
def Shift (a a' : Acc) : Prop :=
  ∃ δ, a'.lo = a.lo + δ ∧ δ + a'.bytes ≤ a.bytes ∧
    (a'.bmBase = sliceAt a.bmBase δ ∨ (δ = 0 ∧ a'.bmBase = a.bmBase))

theorem derive_shift {a a' : Acc} {op : DOp} (h : derive a op = .ok a') : Shift a a' := by
  cases a with
  | sl s =>
    cases op with
    | sub off cnt =>
      obtain ⟨s', hx, rfl⟩ := (mapOk_eq_ok _ _ _).1 h
      obtain ⟨-, h2, h3, h4, h5⟩ := subslice_ok hx
      exact ⟨off, h3, by rw [show (Acc.sl s').bytes = cnt from h4]; exact h2, .inl h5⟩
    | off cnt =>
      obtain ⟨s', hx, rfl⟩ := (mapOk_eq_ok _ _ _).1 h
      obtain ⟨-, h2, h3, h4, h5⟩ := offset_ok hx
      exact ⟨cnt, h3, by show cnt + s'.size ≤ s.size; omega, .inl h5⟩
    | splitL mid =>
      obtain ⟨⟨l, r⟩, hx, rfl⟩ := (mapOk_eq_ok _ _ _).1 h
      obtain ⟨-, h2, h3, h4, h5, -⟩ := splitAt_ok hx
      exact ⟨0, h3, by show 0 + l.size ≤ s.size; omega, .inr ⟨rfl, h5⟩⟩
    | splitR mid =>
      obtain ⟨⟨l, r⟩, hx, rfl⟩ := (mapOk_eq_ok _ _ _).1 h
      obtain ⟨-, h2, -, -, -, h6, h7, h8⟩ := splitAt_ok hx
      exact ⟨mid, h6, by show mid + r.size ≤ s.size; omega, .inl h8⟩
    | getRef off t =>
      obtain ⟨r, hx, rfl⟩ := (mapOk_eq_ok _ _ _).1 h
      obtain ⟨-, h2, h3, h4, h5⟩ := getRef_ok hx
      exact ⟨off, h3, by show off + r.ty.size ≤ s.size; rw [h4]; exact h2, .inl h5⟩
    | getArr off n t =>
      obtain ⟨x, hx, rfl⟩ := (mapOk_eq_ok _ _ _).1 h
      obtain ⟨-, -, -, h2, h3, h4, h5, h6⟩ := getArrayRef_ok hx
      exact ⟨off, h3, by show off + x.nelem * x.ty.size ≤ s.size; rw [h4, h5]; exact h2, .inl h6⟩
    | sliceToArr =>
      cases h
      exact ⟨0, rfl, by show 0 + s.size * 1 ≤ s.size; omega, .inr ⟨rfl, rfl⟩⟩
    | _ => cases h
  | rf r =>
    cases op with
    | refToSlice =>
      cases h
      exact ⟨0, rfl, Nat.le_of_eq (Nat.zero_add _), .inr ⟨rfl, rfl⟩⟩
    | _ => cases h
  | ar x =>
    cases op with
    | arrToSlice =>
      obtain ⟨s, hx, rfl⟩ := (mapOk_eq_ok _ _ _).1 h
      obtain ⟨-, h2, h3, h4⟩ := arrToSlice_ok hx
      exact ⟨0, h2, by show 0 + s.size ≤ x.nelem * x.ty.size; omega, .inr ⟨rfl, h4⟩⟩
    | refAt i =>
      obtain ⟨r, hx, rfl⟩ := (mapOk_eq_ok _ _ _).1 h
      obtain ⟨h1, -, h3, h4, h5⟩ := refAt_ok hx
      exact ⟨x.ty.size * i, h3,
        by show x.ty.size * i + r.ty.size ≤ x.nelem * x.ty.size; rw [h4]; exact elem_end_le h1, .inl h5⟩
    | _ => cases h

theorem Shift.inside {a a' : Acc} (h : Shift a a') : a.lo ≤ a'.lo ∧ a'.hi ≤ a.hi := by
  obtain ⟨δ, h1, h2, -⟩ := h
  unfold Acc.hi
  omega

theorem subslice_contained {s s' : VSlice} {off cnt : Nat} (h : s.subslice off cnt = .ok s') :
    (Acc.sl s).lo ≤ (Acc.sl s').lo ∧ (Acc.sl s').hi ≤ (Acc.sl s).hi :=
  (derive_shift (a := .sl s) (op := .sub off cnt) (congrArg (mapOk Acc.sl) h)).inside

theorem offset_contained {s s' : VSlice} {cnt : Nat} (h : s.offset cnt = .ok s') :
    (Acc.sl s).lo ≤ (Acc.sl s').lo ∧ (Acc.sl s').hi ≤ (Acc.sl s).hi :=
  (derive_shift (a := .sl s) (op := .off cnt) (congrArg (mapOk Acc.sl) h)).inside

/-- `offset` never shortens the end: the derived view ends exactly where the parent ends -/
theorem offset_same_end {s s' : VSlice} {cnt : Nat} (h : s.offset cnt = .ok s') :
    (Acc.sl s').hi = (Acc.sl s).hi := by
  have := offset_ok h
  simp only [Acc.lo, Acc.hi, Acc.bytes]
  omega

theorem splitAt_contained {s l r : VSlice} {mid : Nat} (h : s.splitAt mid = .ok (l, r)) :
    ((Acc.sl s).lo ≤ (Acc.sl l).lo ∧ (Acc.sl l).hi ≤ (Acc.sl s).hi) ∧
    ((Acc.sl s).lo ≤ (Acc.sl r).lo ∧ (Acc.sl r).hi ≤ (Acc.sl s).hi) :=
  ⟨(derive_shift (a := .sl s) (op := .splitL mid) (congrArg (mapOk fun p : VSlice × VSlice => Acc.sl p.1) h)).inside,
    (derive_shift (a := .sl s) (op := .splitR mid) (congrArg (mapOk fun p : VSlice × VSlice => Acc.sl p.2) h)).inside⟩

/-- the two halves of `split_at` are adjacent, disjoint and cover the parent exactly -/
theorem splitAt_partition {s l r : VSlice} {mid : Nat} (h : s.splitAt mid = .ok (l, r)) :
    (Acc.sl l).lo = (Acc.sl s).lo ∧ (Acc.sl l).hi = (Acc.sl r).lo ∧
      (Acc.sl r).hi = (Acc.sl s).hi := by
  have := splitAt_ok h
  simp only [Acc.lo, Acc.hi, Acc.bytes]
  omega

theorem getRef_contained {s : VSlice} {r : VRef} {off : Nat} {t : Ty}
    (h : s.getRef off t = .ok r) :
    (Acc.sl s).lo ≤ (Acc.rf r).lo ∧ (Acc.rf r).hi ≤ (Acc.sl s).hi :=
  (derive_shift (a := .sl s) (op := .getRef off t) (congrArg (mapOk Acc.rf) h)).inside

theorem getArrayRef_contained {s : VSlice} {a : VArr} {off n : Nat} {t : Ty}
    (h : s.getArrayRef off n t = .ok a) :
    (Acc.sl s).lo ≤ (Acc.ar a).lo ∧ (Acc.ar a).hi ≤ (Acc.sl s).hi :=
  (derive_shift (a := .sl s) (op := .getArr off n t) (congrArg (mapOk Acc.ar) h)).inside

theorem refAt_contained {a : VArr} {r : VRef} {i : Nat} (h : a.refAt i = .ok r) :
    (Acc.ar a).lo ≤ (Acc.rf r).lo ∧ (Acc.rf r).hi ≤ (Acc.ar a).hi :=
  (derive_shift (a := .ar a) (op := .refAt i) (congrArg (mapOk Acc.rf) h)).inside

theorem refToSlice_contained (r : VRef) :
    (Acc.rf r).lo ≤ (Acc.sl r.toSlice).lo ∧ (Acc.sl r.toSlice).hi ≤ (Acc.rf r).hi :=
  (derive_shift (a := .rf r) (op := .refToSlice) rfl).inside

theorem arrToSlice_contained {a : VArr} {s : VSlice} (h : a.toSlice = .ok s) :
    (Acc.ar a).lo ≤ (Acc.sl s).lo ∧ (Acc.sl s).hi ≤ (Acc.ar a).hi :=
  (derive_shift (a := .ar a) (op := .arrToSlice) (congrArg (mapOk Acc.sl) h)).inside

theorem toArr_contained (s : VSlice) :
    (Acc.sl s).lo ≤ (Acc.ar s.toArr).lo ∧ (Acc.ar s.toArr).hi ≤ (Acc.sl s).hi :=
  (derive_shift (a := .sl s) (op := .sliceToArr) rfl).inside

/-- the conversions designate *exactly* the same bytes -/
theorem conversions_same_extent (r : VRef) (s : VSlice) :
    ((Acc.sl r.toSlice).lo = (Acc.rf r).lo ∧ (Acc.sl r.toSlice).bytes = (Acc.rf r).bytes) ∧
    ((Acc.ar s.toArr).lo = (Acc.sl s).lo ∧ (Acc.ar s.toArr).bytes = (Acc.sl s).bytes) := by
  simp [Acc.lo, Acc.bytes, VRef.toSlice, VSlice.toArr]

/-- one step of any kind, with any operands: the result designates only bytes of the
    parent.  No hypothesis on the parent is needed. -/
theorem derive_inside {a a' : Acc} {op : DOp} (h : derive a op = .ok a') :
    a.lo ≤ a'.lo ∧ a'.hi ≤ a.hi := (derive_shift h).inside

/-- containment plus preservation of the invariant -/
theorem derive_contained (a a' : Acc) (op : DOp) (hwf : a.WF) (h : derive a op = .ok a') :
    a.lo ≤ a'.lo ∧ a'.hi ≤ a.hi ∧ a'.WF :=
  have hin := derive_inside h
  ⟨hin.1, hin.2, hwf.of_inside hin⟩

theorem derive_contained_isize (a a' : Acc) (op : DOp) (hwf : a.WFI)
    (h : derive a op = .ok a') : a.lo ≤ a'.lo ∧ a'.hi ≤ a.hi ∧ a'.WFI :=
  have hin := derive_inside h
  ⟨hin.1, hin.2, hwf.of_inside hin⟩

/-! ## §2 chains of any depth -/

theorem deriveChain_cons_ok {a b : Acc} {op : DOp} {ops : List DOp}
    (h : deriveChain a (op :: ops) = .ok b) :
    ∃ a', derive a op = .ok a' ∧ deriveChain a' ops = .ok b := by
  simp only [deriveChain] at h
  exact (Res.bind_eq_ok _ _ _).1 h

theorem chain_induction {P : Acc → Prop} (step : ∀ {a a' op}, P a → derive a op = .ok a' → P a')
    {root a : Acc} {ops : List DOp} (h0 : P root) (h : deriveChain root ops = .ok a) : P a := by
  induction ops generalizing root with
  | nil => cases h; exact h0
  | cons op ops ih =>
    obtain ⟨a', h1, h2⟩ := deriveChain_cons_ok h
    exact ih (step h0 h1) h2

/-- every chain of any depth stays inside the root; no hypothesis on the root -/
theorem chain_inside {root a : Acc} {ops : List DOp} (h : deriveChain root ops = .ok a) :
    root.lo ≤ a.lo ∧ a.hi ≤ root.hi :=
  chain_induction (P := fun a => root.lo ≤ a.lo ∧ a.hi ≤ root.hi)
    (fun h0 h1 => Acc.inside_trans (derive_inside h1) h0) (Acc.inside_refl root) h

theorem chain_contained (root : Acc) (hwf : root.WF) (ops : List DOp) (a : Acc)
    (h : deriveChain root ops = .ok a) : root.lo ≤ a.lo ∧ a.hi ≤ root.hi ∧ a.WF :=
  have hin := chain_inside h
  ⟨hin.1, hin.2, hwf.of_inside hin⟩

theorem chain_contained_isize (root : Acc) (hwf : root.WFI) (ops : List DOp) (a : Acc)
    (h : deriveChain root ops = .ok a) : root.lo ≤ a.lo ∧ a.hi ≤ root.hi ∧ a.WFI :=
  have hin := chain_inside h
  ⟨hin.1, hin.2, hwf.of_inside hin⟩

theorem deriveChain_append (a : Acc) (ops1 ops2 : List DOp) :
    deriveChain a (ops1 ++ ops2) = deriveChain a ops1 >>= fun b => deriveChain b ops2 := by
  induction ops1 generalizing a with
  | nil => rfl
  | cons op ops ih =>
    simp only [List.cons_append, deriveChain]
    cases derive a op with
    | ok a' => simp only [Res.bind_ok]; exact ih a'
    | err e => rfl
    | panic => rfl

/-- a chain that succeeds has succeeded at every prefix -/
theorem chain_prefix_ok (root : Acc) (ops1 ops2 : List DOp) (a : Acc)
    (h : deriveChain root (ops1 ++ ops2) = .ok a) :
    ∃ p, deriveChain root ops1 = .ok p ∧ deriveChain p ops2 = .ok a ∧
      (p.lo ≤ a.lo ∧ a.hi ≤ p.hi) ∧ (root.lo ≤ p.lo ∧ p.hi ≤ root.hi) := by
  rw [deriveChain_append] at h
  obtain ⟨p, hp, hrest⟩ := (Res.bind_eq_ok _ _ _).1 h
  exact ⟨p, hp, hrest, chain_inside hrest, chain_inside hp⟩

/-- every intermediate accessor of a chain is inside its *direct* parent (and the
    parent is inside the root): the statement for the last step of `ops ++ [op]`;
    by induction it covers every step. -/
theorem chain_snoc (root : Acc) (ops : List DOp) (op : DOp) (a : Acc)
    (h : deriveChain root (ops ++ [op]) = .ok a) :
    ∃ p, deriveChain root ops = .ok p ∧ derive p op = .ok a ∧
      (p.lo ≤ a.lo ∧ a.hi ≤ p.hi) ∧ (root.lo ≤ p.lo ∧ p.hi ≤ root.hi) := by
  obtain ⟨p, hp, hstep, hin, hroot⟩ := chain_prefix_ok root ops [op] a h
  obtain ⟨a', ha', hnil⟩ := deriveChain_cons_ok hstep
  cases hnil
  exact ⟨p, hp, ha', hin, hroot⟩

/-! ## §3 exact acceptance conditions, result fields, error classification -/

theorem subslice_ok_iff (s : VSlice) (off cnt : Nat) :
    (∃ s', s.subslice off cnt = .ok s') ↔ off + cnt < U ∧ off + cnt ≤ s.size :=
  subslice_checked s off cnt ▸ checked_isOk

theorem subslice_val {s s' : VSlice} {off cnt : Nat} (h : s.subslice off cnt = .ok s') :
    s'.addr = s.addr + off ∧ s'.size = cnt ∧ s'.bmBase = sliceAt s.bmBase off :=
  (subslice_ok h).2.2

theorem subslice_err_overflow (s : VSlice) (off cnt : Nat) (h : U ≤ off + cnt) :
    s.subslice off cnt = .err .overflow :=
  subslice_checked s off cnt ▸ checked_overflow (Nat.not_lt.2 h)

theorem subslice_err_oob (s : VSlice) (off cnt : Nat) (h1 : off + cnt < U)
    (h2 : s.size < off + cnt) : s.subslice off cnt = .err .outOfBounds :=
  subslice_checked s off cnt ▸ checked_oob h1 (Nat.not_le.2 h2)

theorem offset_ok_iff (s : VSlice) (cnt : Nat) :
    (∃ s', s.offset cnt = .ok s') ↔ s.addr + cnt < U ∧ cnt ≤ s.size :=
  offset_checked s cnt ▸ checked_isOk

theorem offset_val {s s' : VSlice} {cnt : Nat} (h : s.offset cnt = .ok s') :
    s'.addr = s.addr + cnt ∧ s'.size = s.size - cnt ∧ s'.bmBase = sliceAt s.bmBase cnt :=
  (offset_ok h).2.2

theorem offset_err_overflow (s : VSlice) (cnt : Nat) (h : U ≤ s.addr + cnt) :
    s.offset cnt = .err .overflow :=
  offset_checked s cnt ▸ checked_overflow (Nat.not_lt.2 h)

theorem offset_err_oob (s : VSlice) (cnt : Nat) (h1 : s.addr + cnt < U) (h2 : s.size < cnt) :
    s.offset cnt = .err .outOfBounds :=
  offset_checked s cnt ▸ checked_oob h1 (Nat.not_le.2 h2)

/-- for a slice that ends below the top of the address space the pointer addition of
    `offset` cannot be the deciding check: acceptance is exactly `cnt ≤ size`.
    (Corner: a slice ending exactly at address `2^64` satisfies `Acc.WF`, and
    `offset size` on it answers `Overflow` while `subslice size 0` succeeds.) -/
theorem offset_ok_iff_of_end_lt (s : VSlice) (cnt : Nat) (hend : s.addr + s.size < U) :
    (∃ s', s.offset cnt = .ok s') ↔ cnt ≤ s.size := by
  rw [offset_ok_iff]
  exact ⟨fun h => h.2, fun h => ⟨Nat.lt_of_le_of_lt (Nat.add_le_add_left h _) hend, h⟩⟩

theorem splitAt_ok_iff (s : VSlice) (mid : Nat) :
    (∃ p, s.splitAt mid = .ok p) ↔ s.addr + mid < U ∧ mid ≤ s.size :=
  splitAt_checked s mid ▸ checked_isOk

theorem splitAt_val {s l r : VSlice} {mid : Nat} (h : s.splitAt mid = .ok (l, r)) :
    l.addr = s.addr ∧ l.size = mid ∧ l.bmBase = s.bmBase ∧
      r.addr = s.addr + mid ∧ r.size = s.size - mid ∧ r.bmBase = sliceAt s.bmBase mid :=
  (splitAt_ok h).2.2

theorem splitAt_err_overflow (s : VSlice) (mid : Nat) (h : U ≤ s.addr + mid) :
    s.splitAt mid = .err .overflow :=
  splitAt_checked s mid ▸ checked_overflow (Nat.not_lt.2 h)

theorem splitAt_err_oob (s : VSlice) (mid : Nat) (h1 : s.addr + mid < U) (h2 : s.size < mid) :
    s.splitAt mid = .err .outOfBounds :=
  splitAt_checked s mid ▸ checked_oob h1 (Nat.not_le.2 h2)

theorem getRef_ok_iff (s : VSlice) (off : Nat) (t : Ty) :
    (∃ r, s.getRef off t = .ok r) ↔ off + t.size < U ∧ off + t.size ≤ s.size :=
  getRef_checked s off t ▸ checked_isOk

theorem getRef_val {s : VSlice} {r : VRef} {off : Nat} {t : Ty} (h : s.getRef off t = .ok r) :
    r.addr = s.addr + off ∧ r.ty = t ∧ r.bmBase = sliceAt s.bmBase off :=
  (getRef_ok h).2.2

theorem getRef_err_overflow (s : VSlice) (off : Nat) (t : Ty) (h : U ≤ off + t.size) :
    s.getRef off t = .err .overflow :=
  getRef_checked s off t ▸ checked_overflow (Nat.not_lt.2 h)

theorem getRef_err_oob (s : VSlice) (off : Nat) (t : Ty) (h1 : off + t.size < U)
    (h2 : s.size < off + t.size) : s.getRef off t = .err .outOfBounds :=
  getRef_checked s off t ▸ checked_oob h1 (Nat.not_le.2 h2)

theorem getArrayRef_ok_iff (s : VSlice) (off n : Nat) (t : Ty) :
    (∃ a, s.getArrayRef off n t = .ok a) ↔
      n ≤ ISIZE_MAX ∧ n * t.size ≤ ISIZE_MAX ∧ off + n * t.size < U ∧
        off + n * t.size ≤ s.size := by
  rw [getArrayRef_checked]
  by_cases h0 : n ≤ ISIZE_MAX ∧ n * t.size ≤ ISIZE_MAX
  · rw [if_pos h0, checked_isOk]
    exact ⟨fun h => ⟨h0.1, h0.2, h⟩, fun h => h.2.2⟩
  · rw [if_neg h0]
    constructor
    · rintro ⟨a, ha⟩; cases ha
    · rintro ⟨h1, h2, -, -⟩; exact absurd ⟨h1, h2⟩ h0

theorem getArrayRef_val {s : VSlice} {a : VArr} {off n : Nat} {t : Ty}
    (h : s.getArrayRef off n t = .ok a) :
    a.addr = s.addr + off ∧ a.nelem = n ∧ a.ty = t ∧ a.bmBase = sliceAt s.bmBase off :=
  (getArrayRef_ok h).2.2.2.2

theorem getArrayRef_err_tooBig (s : VSlice) (off n : Nat) (t : Ty)
    (h : ISIZE_MAX < n ∨ ISIZE_MAX < n * t.size) : s.getArrayRef off n t = .err .tooBig := by
  rw [getArrayRef_checked, if_neg (by omega)]

theorem getArrayRef_err_overflow (s : VSlice) (off n : Nat) (t : Ty)
    (h0 : n ≤ ISIZE_MAX ∧ n * t.size ≤ ISIZE_MAX) (h : U ≤ off + n * t.size) :
    s.getArrayRef off n t = .err .overflow := by
  rw [getArrayRef_checked, if_pos h0, checked_overflow (Nat.not_lt.2 h)]

theorem getArrayRef_err_oob (s : VSlice) (off n : Nat) (t : Ty)
    (h0 : n ≤ ISIZE_MAX ∧ n * t.size ≤ ISIZE_MAX) (h1 : off + n * t.size < U)
    (h2 : s.size < off + n * t.size) : s.getArrayRef off n t = .err .outOfBounds := by
  rw [getArrayRef_checked, if_pos h0, checked_oob h1 (Nat.not_le.2 h2)]

theorem refAt_val {a : VArr} {r : VRef} {i : Nat} (h : a.refAt i = .ok r) :
    r.addr = a.addr + a.ty.size * i ∧ r.ty = a.ty ∧
      r.bmBase = sliceAt a.bmBase (a.ty.size * i) :=
  (refAt_ok h).2.2

theorem refAt_of_lt {a : VArr} (hwf : (Acc.ar a).WF) {i : Nat} (hi : i < a.nelem) :
    a.refAt i = .ok { addr := a.addr + a.ty.size * i, bmBase := sliceAt a.bmBase (a.ty.size * i),
                      ty := a.ty } := by
  rw [refAt_eq, if_pos hi, if_pos (Nat.lt_of_le_of_lt (elem_ofs_le hi) hwf.2)]

theorem refAt_ok_iff (a : VArr) (hwf : (Acc.ar a).WF) (i : Nat) :
    (∃ r, a.refAt i = .ok r) ↔ i < a.nelem :=
  ⟨fun ⟨_, h⟩ => (refAt_ok h).1, fun h => ⟨_, refAt_of_lt hwf h⟩⟩

theorem arrToSlice_val {a : VArr} {s : VSlice} (h : a.toSlice = .ok s) :
    s.addr = a.addr ∧ s.size = a.nelem * a.ty.size ∧ s.bmBase = a.bmBase :=
  (arrToSlice_ok h).2

theorem arrToSlice_ok_of_wf (a : VArr) (hwf : (Acc.ar a).WF) :
    a.toSlice = .ok { addr := a.addr, size := a.nelem * a.ty.size, bmBase := a.bmBase } := by
  rw [arrToSlice_eq, if_pos (show a.nelem * a.ty.size < U from hwf.2)]

theorem refToSlice_val (r : VRef) :
    r.toSlice.addr = r.addr ∧ r.toSlice.size = r.ty.size ∧ r.toSlice.bmBase = r.bmBase :=
  ⟨rfl, rfl, rfl⟩

theorem toArr_val (s : VSlice) :
    s.toArr.addr = s.addr ∧ s.toArr.nelem = s.size ∧ s.toArr.ty = ⟨1, 1⟩ ∧
      s.toArr.bmBase = s.bmBase :=
  ⟨rfl, rfl, rfl, rfl⟩

/-! ## §4 a misfit is an error, never a panic -/

/-- `ref_at` is the one derivation with an `assert!`: it panics exactly for an index
    that is not below the element count (documented behaviour of the crate). -/
theorem refAt_panics_iff (a : VArr) (hwf : (Acc.ar a).WF) (i : Nat) :
    a.refAt i = .panic ↔ a.nelem ≤ i := by
  constructor
  · intro h
    apply Nat.le_of_not_lt
    intro hi
    rw [refAt_of_lt hwf hi] at h
    cases h
  · intro hi
    rw [refAt_eq, if_neg (Nat.not_lt.2 hi)]

theorem refAt_ne_err (a : VArr) (i : Nat) (e : Err) : a.refAt i ≠ .err e := by
  rw [refAt_eq]
  split
  · split <;> simp
  · simp

theorem arrToSlice_no_panic (a : VArr) (hwf : (Acc.ar a).WF) : a.toSlice ≠ .panic := by
  rw [arrToSlice_ok_of_wf a hwf]; simp

/-- the side condition on a `refAt` step (`derive_no_panic` spells it out as `hop`) -/
def idxOk (a : Acc) (op : DOp) : Prop := ∀ i, op = .refAt i → ∀ arr, a = .ar arr → i < arr.nelem

/-- every derivation function applied to ANY operands of a well-formed accessor returns `ok` or `err`, never
    `panic`; the only exception is the documented `assert!` of `ref_at` (`hop`).  `hwf` is needed for one step only:
    the plain `*` in `VolatileArrayRef::to_slice` (see the header). -/
theorem derive_no_panic (a : Acc) (hwf : a.WF) (op : DOp)
    (hop : ∀ i, op = .refAt i → ∀ arr, a = .ar arr → i < arr.nelem) :
    derive a op ≠ .panic := by
  cases a with
  | sl s =>
    cases op with
    | sub off cnt => exact mapOk_ne_panic _ (subslice_ne_panic _ _ _)
    | off cnt => exact mapOk_ne_panic _ (offset_ne_panic _ _)
    | splitL mid => exact mapOk_ne_panic _ (splitAt_ne_panic _ _)
    | splitR mid => exact mapOk_ne_panic _ (splitAt_ne_panic _ _)
    | getRef off t => exact mapOk_ne_panic _ (getRef_ne_panic _ _ _)
    | getArr off n t => exact mapOk_ne_panic _ (getArrayRef_ne_panic _ _ _ _)
    | _ => nofun
  | rf r => cases op <;> nofun
  | ar arr =>
    cases op with
    | arrToSlice => exact mapOk_ne_panic _ (arrToSlice_no_panic arr hwf)
    | refAt i =>
      exact mapOk_ne_panic _ fun h =>
        Nat.not_le.2 (hop i rfl arr rfl) ((refAt_panics_iff arr hwf i).1 h)
    | _ => nofun

theorem derive_ok_or_err (a : Acc) (hwf : a.WF) (op : DOp)
    (hop : ∀ i, op = .refAt i → ∀ arr, a = .ar arr → i < arr.nelem) :
    (∃ a', derive a op = .ok a') ∨ (∃ e, derive a op = .err e) := by
  have := derive_no_panic a hwf op hop
  cases h : derive a op with
  | ok a' => exact .inl ⟨a', rfl⟩
  | err e => exact .inr ⟨e, rfl⟩
  | panic => exact absurd h this

/-- the functions that take caller-chosen offsets / lengths / counts never panic, with
    no hypothesis whatsoever on the slice or the operands -/
theorem misfit_is_error (s : VSlice) (off cnt n : Nat) (t : Ty) :
    s.subslice off cnt ≠ .panic ∧ s.offset cnt ≠ .panic ∧ s.splitAt cnt ≠ .panic ∧
      s.getRef off t ≠ .panic ∧ s.getArrayRef off n t ≠ .panic ∧ s.alignedRef off t ≠ .panic :=
  ⟨subslice_ne_panic _ _ _, offset_ne_panic _ _, splitAt_ne_panic _ _, getRef_ne_panic _ _ _,
    getArrayRef_ne_panic _ _ _ _, alignedRef_ne_panic _ _ _⟩

/-- a chain from a well-formed root whose `refAt` indices respect the element counts
    never panics at any depth -/
theorem chain_no_panic (root : Acc) (hwf : root.WF) (ops : List DOp)
    (hidx : ∀ ops1 op ops2 p, ops = ops1 ++ op :: ops2 → deriveChain root ops1 = .ok p → idxOk p op) :
    deriveChain root ops ≠ .panic := by
  induction ops generalizing root with
  | nil => simp [deriveChain]
  | cons op ops ih =>
    simp only [deriveChain]
    have hnp := derive_no_panic root hwf op (hidx [] op ops root rfl rfl)
    cases h : derive root op with
    | panic => exact absurd h hnp
    | err e => simp
    | ok a' =>
      simp only [Res.bind_ok]
      apply ih a' (derive_contained root a' op hwf h).2.2
      intro ops1 op' ops2 p heq hp
      apply hidx (op :: ops1) op' ops2 p (by rw [heq]; rfl)
      simp only [deriveChain, h, Res.bind_ok]
      exact hp

/-! ## §5 typed / atomic references are aligned -/

theorem typed_aligned (s : VSlice) (off : Nat) (t : Ty) (p : Nat)
    (h : s.alignedRef off t = .ok p) :
    p % t.align = 0 ∧ s.addr ≤ p ∧ p + t.size ≤ s.addr + s.size ∧ p = s.addr + off := by
  obtain ⟨h1, h2, h3, h4⟩ := alignedRef_ok h
  subst h4
  exact ⟨h3, by omega, by omega, rfl⟩

theorem alignedRef_err_misaligned (s : VSlice) (off : Nat) (t : Ty)
    (hfit : off + t.size < U ∧ off + t.size ≤ s.size) (hmis : (s.addr + off) % t.align ≠ 0) :
    s.alignedRef off t = .err .misaligned := by
  rw [alignedRef_eq, if_pos hfit.1, if_pos hfit.2, if_neg hmis]

theorem alignedRef_ok_iff (s : VSlice) (off : Nat) (t : Ty) :
    (∃ p, s.alignedRef off t = .ok p) ↔
      off + t.size < U ∧ off + t.size ≤ s.size ∧ (s.addr + off) % t.align = 0 := by
  constructor
  · rintro ⟨p, h⟩
    obtain ⟨h1, h2, h3, -⟩ := alignedRef_ok h
    exact ⟨h1, h2, h3⟩
  · rintro ⟨h1, h2, h3⟩
    exact ⟨_, by rw [alignedRef_eq, if_pos h1, if_pos h2, if_pos h3]⟩

/-- the bounds checks take precedence over the alignment check -/
theorem alignedRef_err_overflow (s : VSlice) (off : Nat) (t : Ty) (h : U ≤ off + t.size) :
    s.alignedRef off t = .err .overflow := by
  rw [alignedRef_eq, if_neg (Nat.not_lt.2 h)]

theorem alignedRef_err_oob (s : VSlice) (off : Nat) (t : Ty) (h1 : off + t.size < U)
    (h2 : s.size < off + t.size) : s.alignedRef off t = .err .outOfBounds := by
  rw [alignedRef_eq, if_pos h1, if_neg (Nat.not_le.2 h2)]

/-! ## §6 array byte length fits `isize` -/

theorem array_bytes_fit_isize (s : VSlice) (off n : Nat) (t : Ty) (a : VArr)
    (h : s.getArrayRef off n t = .ok a) : a.nelem * a.ty.size ≤ ISIZE_MAX := by
  obtain ⟨-, h2, -, -, -, h6, h7, -⟩ := getArrayRef_ok h
  rw [h6, h7]; exact h2

theorem array_nelem_fit_isize (s : VSlice) (off n : Nat) (t : Ty) (a : VArr)
    (h : s.getArrayRef off n t = .ok a) : a.nelem ≤ ISIZE_MAX := by
  obtain ⟨h1, -, -, -, -, h6, -, -⟩ := getArrayRef_ok h
  rw [h6]; exact h1

/-! ## §7 pointer guards -/

theorem guard_slice (s : VSlice) : s.guardLen = (Acc.sl s).bytes := rfl

theorem guard_ref (r : VRef) : r.guardLen = (Acc.rf r).bytes := rfl

/-- `VolatileArrayRef::ptr_guard{,_mut}` span the array in bytes (full-strength statement;
    it holds since the `fix:` commit "VolatileArrayRef pointer guards must span the array in bytes"). -/
theorem guard_arr (a : VArr) : a.guardLen = (Acc.ar a).bytes := rfl

/-- record of defect D3: the source used to pass `self.len()` — the element *count* — as the
    guard length, which equals the byte length only for one-byte elements. -/
def guardLenBeforeFix (a : VArr) : Nat := a.nelem

theorem guard_arr_before_fix_partial (a : VArr) (h1 : a.ty.size = 1) :
    guardLenBeforeFix a = (Acc.ar a).bytes := by
  simp [guardLenBeforeFix, Acc.bytes, h1]

/-- 5 elements of size 4 — the old guard said 5, the bytes are 20 -/
theorem guard_arr_defect_before_fix :
    ∃ a : VArr, (Acc.ar a).WFI ∧ guardLenBeforeFix a = 5 ∧ (Acc.ar a).bytes = 20 :=
  ⟨{ addr := 0x1000, nelem := 5, bmBase := 0, ty := ⟨4, 4⟩ }, by decide, rfl, rfl⟩

/-! ## §8 the root view and `Mem.inBounds` -/

/-- the region does not wrap and its length is a `usize` value -/
theorem root_wf (m : Mem) (h : m.base + m.bytes.length ≤ U) (hsz : m.bytes.length < U) :
    (Acc.sl m.root).WF := ⟨h, hsz⟩

/-- a region at a non-null base needs only the no-wrap hypothesis -/
theorem root_wf_of_base_pos (m : Mem) (h : m.base + m.bytes.length ≤ U) (hb : 0 < m.base) :
    (Acc.sl m.root).WF := by
  refine ⟨h, ?_⟩
  simp only [Acc.bytes, Mem.root]
  omega

theorem root_wfi (m : Mem) (h : m.base + m.bytes.length ≤ U) (hsz : m.bytes.length ≤ ISIZE_MAX) :
    (Acc.sl m.root).WFI := ⟨h, hsz⟩

/-- any accessor obtained by a chain of any depth from the root view of `m`, and every prefix of
    it (partial transfers), passes the bounds test of the raw data-movement functions -/
theorem chain_in_bounds_prefix (m : Mem) (ops : List DOp) (a : Acc) (n : Nat)
    (h : deriveChain (.sl m.root) ops = .ok a) (hn : n ≤ a.bytes) :
    m.inBounds a.lo n = true := by
  have hin : m.base ≤ a.lo ∧ a.lo + a.bytes ≤ m.base + m.bytes.length := chain_inside h
  simp only [Mem.inBounds, Bool.or_eq_true, beq_iff_eq, Bool.and_eq_true, decide_eq_true_eq]
  right
  omega

theorem chain_in_bounds (m : Mem) (ops : List DOp) (a : Acc)
    (h : deriveChain (.sl m.root) ops = .ok a) : m.inBounds a.lo a.bytes = true :=
  chain_in_bounds_prefix m ops a a.bytes h (Nat.le_refl _)

/-- hence `readAt` / `writeAt` on it never reach their out-of-bounds `panic` branch -/
theorem chain_readAt_no_panic (m : Mem) (ops : List DOp) (a : Acc) (n : Nat)
    (h : deriveChain (.sl m.root) ops = .ok a) (hn : n ≤ a.bytes) :
    m.readAt a.lo n ≠ .panic := by
  simp [Mem.readAt, chain_in_bounds_prefix m ops a n h hn]

theorem chain_writeAt_no_panic (m : Mem) (ops : List DOp) (a : Acc) (d : List UInt8)
    (h : deriveChain (.sl m.root) ops = .ok a) (hn : d.length ≤ a.bytes) :
    m.writeAt a.lo d ≠ .panic := by
  simp [Mem.writeAt, chain_in_bounds_prefix m ops a d.length h hn]

/-! ### the provided typed accessors over *any* implementation of `get_slice`

`VolatileMemory::{get_ref, get_array_ref, aligned_as_ref, aligned_as_mut, get_atomic_ref}` are provided methods: they
call the implementor's `get_slice(offset, count)` and then `assert_eq!(slice.len(), count)` before they build an
accessor of `count` bytes at `slice.addr` with `unsafe` code.  For a third-party implementor whose `get_slice` hands
out fewer bytes than asked, that assertion is the only thing between the accessor and the bytes behind the slice. -/
/-- the provided method, for an arbitrary `get_slice`; `align` is the `check_alignment` step of the reference forms -/
def typedVia (getSlice : Nat → Nat → Res VSlice) (offset count : Nat) (align : Option Nat) : Res VSlice :=
  match getSlice offset count with
  | .ok s =>
    match align with
    | some a => if s.addr % a ≠ 0 then .err .misaligned else if s.size = count then .ok { s with size := count } else .panic
    | none => if s.size = count then .ok { s with size := count } else .panic
  | .err e => .err e
  | .panic => .panic

/-- **whatever the implementor's `get_slice` returns, a typed accessor is handed out only with the address and size of the
    slice `get_slice` returned** (so it designates only bytes the implementor vouched for), and only at an aligned address -/
theorem typedVia_within (getSlice : Nat → Nat → Res VSlice) (offset count : Nat) (align : Option Nat) (a : VSlice)
    (h : typedVia getSlice offset count align = .ok a) :
    ∃ s, getSlice offset count = .ok s ∧ a.addr = s.addr ∧ a.size = s.size ∧ a.size = count ∧
      (∀ al, align = some al → a.addr % al = 0) := by
  unfold typedVia at h
  split at h
  · rename_i s hs
    refine ⟨s, hs, ?_⟩
    split at h
    · split at h
      · cases h
      · rename_i hal
        split at h
        · cases h
          exact ⟨rfl, ‹s.size = count›.symm, rfl, fun _ h' => Option.some.inj h' ▸ Decidable.not_not.1 hal⟩
        · cases h
    · split at h
      · cases h
        exact ⟨rfl, ‹s.size = count›.symm, rfl, nofun⟩
      · cases h
  · cases h
  · cases h

/-- a `get_slice` that comes back short makes the provided method panic (forms without alignment check) -/
theorem typedVia_short_panics (getSlice : Nat → Nat → Res VSlice) (offset count : Nat) (s : VSlice)
    (hs : getSlice offset count = .ok s) (hshort : s.size ≠ count) : typedVia getSlice offset count none = .panic := by
  unfold typedVia; simp [hs, hshort]

/-! ## §9 non-vacuity -/

/-- a root at base address 0x1003 of size 300 -/
def exMem : Mem := { base := 0x1003, bytes := List.replicate 300 0, bm := none }

def exRoot : VSlice := { addr := 0x1003, size := 300, bmBase := 0 }

theorem exMem_root : exMem.root = exRoot := by
  show VSlice.mk 0x1003 (List.replicate 300 (0 : UInt8)).length 0 = VSlice.mk 0x1003 300 0
  rw [List.length_replicate]

/-- depth 6: sub, off, splitR, getArr, refAt, refToSlice -/
example :
    deriveChain (.sl exMem.root)
      [.sub 3 200, .off 10, .splitR 30, .getArr 2 10 ⟨4, 4⟩, .refAt 3, .refToSlice]
      = .ok (.sl { addr := 0x103c, size := 4, bmBase := 57 }) := by rw [exMem_root]; decide +kernel

/-- depth 10, through every accessor kind and back -/
example :
    deriveChain (.sl exMem.root)
      [.sub 3 200, .off 10, .splitR 30, .getArr 2 10 ⟨4, 4⟩, .arrToSlice, .sliceToArr,
       .refAt 39, .refToSlice, .splitL 1, .getRef 0 ⟨1, 1⟩]
      = .ok (.rf { addr := 0x1057, bmBase := 84, ty := ⟨1, 1⟩ }) := by rw [exMem_root]; decide +kernel

/-- the typed reference of the first chain is 4-aligned -/
example : (VSlice.mk 0x102e 160 43).alignedRef 14 ⟨4, 4⟩ = .ok 0x103c := by decide +kernel
/-- … and one byte further it is refused -/
example : (VSlice.mk 0x102e 160 43).alignedRef 15 ⟨4, 4⟩ = .err .misaligned := by decide +kernel

/-- an overflowing request -/
example : exMem.root.subslice (U - 1) 2 = .err .overflow := by rw [exMem_root]; decide +kernel
example : derive (.sl exMem.root) (.sub (U - 1) 2) = .err .overflow := by rw [exMem_root]; decide +kernel
example : exMem.root.getRef (U - 1) ⟨2, 2⟩ = .err .overflow := by rw [exMem_root]; decide +kernel
example : exMem.root.getArrayRef 0 (ISIZE_MAX + 1) ⟨1, 1⟩ = .err .tooBig := by rw [exMem_root]; decide +kernel
example : exMem.root.getArrayRef 0 (2 ^ 62) ⟨4, 4⟩ = .err .tooBig := by rw [exMem_root]; decide +kernel
example : (VSlice.mk (U - 8) 8 0).offset 8 = .err .overflow := by decide +kernel

/-- `off + cnt = size + 1` is refused, `off + cnt = size` is accepted -/
example : exMem.root.subslice 100 201 = .err .outOfBounds := by rw [exMem_root]; decide +kernel
example : exMem.root.subslice 100 200 = .ok { addr := 0x1067, size := 200, bmBase := 100 } := by
  rw [exMem_root]; decide +kernel
example : exMem.root.offset 301 = .err .outOfBounds := by rw [exMem_root]; decide +kernel
example : exMem.root.offset 300 = .ok { addr := 0x112f, size := 0, bmBase := 300 } := by rw [exMem_root]; decide +kernel
example : exMem.root.getArrayRef 0 76 ⟨4, 4⟩ = .err .outOfBounds := by rw [exMem_root]; decide +kernel
example : (exMem.root.getArrayRef 0 75 ⟨4, 4⟩).isOk = true := by rw [exMem_root]; decide +kernel

/-- the documented `assert!` of `ref_at` -/
example : (VArr.mk 0x1030 10 45 ⟨4, 4⟩).refAt 10 = .panic := by decide +kernel
example : (VArr.mk 0x1030 10 45 ⟨4, 4⟩).refAt 9 = .ok { addr := 0x1054, bmBase := 81, ty := ⟨4, 4⟩ } := by
  decide +kernel

/-- the hypotheses of the invariants are satisfiable by the example root -/
example : (Acc.sl exMem.root).WFI := by rw [exMem_root]; decide +kernel

/-- the corner that makes `bytes < U` necessary in `Acc.WF`: a (fictitious) slice of
    `U` bytes at address 0 satisfies `lo + bytes ≤ U`, yet `toArr` then `toSlice` panics -/
example : deriveChain (.sl { addr := 0, size := U, bmBase := 0 }) [.sliceToArr, .arrToSlice]
    = .panic := by decide +kernel

/-- the corner that makes a per-kind `WF` (arrays: bytes ≤ ISIZE_MAX) not preserved by `sliceToArr` -/
example : ∃ s : VSlice, s.addr + s.size ≤ U ∧ ISIZE_MAX < (Acc.ar s.toArr).bytes :=
  ⟨{ addr := 0, size := 2 ^ 63, bmBase := 0 }, by decide, by decide⟩

/-! ## axioms -/

#print axioms subslice_contained
#print axioms offset_contained
#print axioms splitAt_contained
#print axioms splitAt_partition
#print axioms getRef_contained
#print axioms getArrayRef_contained
#print axioms refAt_contained
#print axioms refToSlice_contained
#print axioms arrToSlice_contained
#print axioms toArr_contained
#print axioms derive_inside
#print axioms derive_contained
#print axioms derive_contained_isize
#print axioms chain_inside
#print axioms chain_contained
#print axioms chain_contained_isize
#print axioms chain_snoc
#print axioms chain_prefix_ok
#print axioms deriveChain_eq_foldlM
#print axioms subslice_ok_iff
#print axioms subslice_val
#print axioms subslice_err_overflow
#print axioms subslice_err_oob
#print axioms offset_ok_iff
#print axioms offset_ok_iff_of_end_lt
#print axioms offset_val
#print axioms offset_err_overflow
#print axioms offset_err_oob
#print axioms splitAt_ok_iff
#print axioms splitAt_val
#print axioms splitAt_err_overflow
#print axioms splitAt_err_oob
#print axioms getRef_ok_iff
#print axioms getRef_val
#print axioms getRef_err_overflow
#print axioms getRef_err_oob
#print axioms getArrayRef_ok_iff
#print axioms getArrayRef_val
#print axioms getArrayRef_err_tooBig
#print axioms getArrayRef_err_overflow
#print axioms getArrayRef_err_oob
#print axioms refAt_val
#print axioms refAt_ok_iff
#print axioms arrToSlice_val
#print axioms arrToSlice_ok_of_wf
#print axioms refToSlice_val
#print axioms toArr_val
#print axioms refAt_panics_iff
#print axioms refAt_ne_err
#print axioms arrToSlice_no_panic
#print axioms derive_no_panic
#print axioms derive_ok_or_err
#print axioms misfit_is_error
#print axioms chain_no_panic
#print axioms typed_aligned
#print axioms alignedRef_err_misaligned
#print axioms alignedRef_ok_iff
#print axioms alignedRef_err_overflow
#print axioms alignedRef_err_oob
#print axioms array_bytes_fit_isize
#print axioms array_nelem_fit_isize
#print axioms guard_slice
#print axioms guard_ref
#print axioms guard_arr
#print axioms guard_arr_before_fix_partial
#print axioms guard_arr_defect_before_fix
#print axioms root_wf
#print axioms root_wf_of_base_pos
#print axioms root_wfi
#print axioms chain_in_bounds
#print axioms chain_in_bounds_prefix
#print axioms chain_readAt_no_panic
#print axioms chain_writeAt_no_panic

end C01
end VmMem
#print axioms VmMem.C01.typedVia_within
#print axioms VmMem.C01.typedVia_short_panics
