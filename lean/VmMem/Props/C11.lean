/-
  VmMem.Props.C11 — a snapshot stays whole and usable while the map is being replaced.

  All statements quantify over arbitrary step lists `σ`, i.e. over every interleaving of any
  number of reader and updater threads (and over every sequential history).
  `Inv` holds initially and is preserved by every step.  A snapshot returns the id that is
  current at that very step, ids are published whole maps, an owner that is not dropped keeps
  designating the same, un-freed map across any number of replacements; after a replacement
  every later snapshot shows that map or a later one; the mutex serialises updaters and no
  replacement is lost; what is freed is unreferenced and never comes back.
-/
import VmMem.Model.Atomic
import VmMem.Lemmas.AtomicLemmas
namespace VmMem.C11
open VmMem VmMem.Atomic

structure Inv (s : St) : Prop where
  cur_published : s.cur ∈ s.published
  owners_published : ∀ o m, (o, m) ∈ s.owners → m ∈ s.published
  published_nodup : s.published.Nodup
  freed_sub : ∀ m ∈ s.freed, m ∈ s.published
  live_not_freed : ∀ m, refs s m > 0 → m ∉ s.freed
  cur_last : s.published.getLast? = some s.cur

/-! ### 1. the invariant -/

theorem init_inv (m0 : Nat) : Inv (init m0) := by
  constructor <;> simp [init]

theorem inv_lock (s : St) (l : Option Nat) (h : Inv s) : Inv { s with lock := l } :=
  ⟨h.cur_published, h.owners_published, h.published_nodup, h.freed_sub, h.live_not_freed, h.cur_last⟩

/-- what an owner designates is published and referenced -/
theorem Inv.owner {s : St} (h : Inv s) {o m : Nat} (hm : (o, m) ∈ s.owners) : m ∈ s.published ∧ refs s m > 0 :=
  ⟨h.owners_published o m hm, (refs_pos_iff s m).2 (Or.inr ⟨o, hm⟩)⟩

theorem Inv.referenced {s : St} (h : Inv s) {m : Nat} (hm : refs s m > 0) : m ∈ s.published := by
  rcases (refs_pos_iff s m).1 hm with e | ⟨o, ho⟩
  · exact e ▸ h.cur_published
  · exact h.owners_published o m ho

/-- the owner list changes, and every owner designates a map that was published and referenced -/
theorem inv_owners (s : St) (os : List (Nat × Nat)) (h : Inv s)
    (hsub : ∀ o m, (o, m) ∈ os → m ∈ s.published ∧ refs s m > 0) : Inv { s with owners := os } := by
  refine ⟨h.cur_published, fun o m hm => (hsub o m hm).1, h.published_nodup, h.freed_sub, fun m hr => ?_, h.cur_last⟩
  apply h.live_not_freed
  rcases (refs_pos_iff _ m).1 hr with e | ⟨o, ho⟩
  · exact (refs_pos_iff s m).2 (Or.inl e)
  · exact (hsub o m ho).2

theorem inv_add_owner (s : St) (o m : Nat) (h : Inv s) (hm : refs s m > 0) (hp : m ∈ s.published) :
    Inv { s with owners := s.owners ++ [(o, m)] } :=
  inv_owners s _ h fun o' m' hmem => by
    rcases List.mem_append.1 hmem with hh | hh
    · exact h.owner hh
    · cases List.mem_singleton.1 hh
      exact ⟨hp, hm⟩

/-- the cell is overwritten with a fresh id (the old reference of the cell goes away) -/
theorem inv_store (s : St) (n : Nat) (h : Inv s) (hn : n ∉ s.published) :
    Inv { s with cur := n, published := s.published ++ [n], lock := none } := by
  refine ⟨by simp, ?_, ?_, ?_, ?_, by simp⟩
  · intro o m hmem
    exact List.mem_append_left _ (h.owners_published o m hmem)
  · exact List.nodup_append.2 ⟨h.published_nodup, List.pairwise_singleton _ n,
      fun a ha b hb e => hn (List.mem_singleton.1 hb ▸ e ▸ ha)⟩
  · intro m hm
    exact List.mem_append_left _ (h.freed_sub m hm)
  · intro m hr
    rcases (refs_pos_iff _ m).1 hr with e | ⟨o', ho'⟩
    · cases (e : n = m)
      exact fun hf => hn (h.freed_sub _ hf)
    · exact h.live_not_freed m (h.owner ho').2

theorem inv_collect (s : St) (h : Inv s) : Inv (collect s) := by
  refine ⟨h.cur_published, h.owners_published, h.published_nodup, ?_, ?_, h.cur_last⟩
  · intro m hm
    rcases (mem_collect_freed s m).1 hm with hh | hh
    · exact h.freed_sub m hh
    · exact hh.1
  · intro m hr hm
    rw [refs_collect] at hr
    rcases (mem_collect_freed s m).1 hm with hh | hh
    · exact h.live_not_freed m hr hh
    · omega

theorem step_inv (s : St) (a : Step) (h : Inv s) : Inv (step s a).1 :=
  step_cases (P := fun x => Inv x.1) s h (fun o m hm => inv_add_owner s o m h hm (h.referenced hm))
    (fun _ => inv_collect _ (inv_owners s _ h fun _ _ hm => h.owner (List.mem_filter.1 hm).1))
    (fun l => inv_lock s l h) (fun n hn => inv_collect _ (inv_store s n h hn)) a

theorem run_inv (s : St) (σ : List Step) (h : Inv s) : Inv (run s σ).1 := run_preserves step_inv s σ h

theorem reachable_inv (m0 : Nat) (σ : List Step) : Inv (run (init m0) σ).1 := run_inv _ σ (init_inv m0)

/-! ### 2. what a snapshot shows -/

/-- a snapshot returns the id that is current at that very step, and it is a published
    (whole) map — never a mixture -/
theorem snapshot_is_some_current (s : St) (o : Nat) (h : Inv s) :
    (step s (.snapshot o)).2 = some s.cur ∧ s.cur ∈ s.published := ⟨rfl, h.cur_published⟩

/-- a snapshot makes `o` an owner of that map (if `o` is a fresh owner id) -/
theorem snapshot_owns (s : St) (o : Nat) (hfresh : mapOf s o = none) :
    mapOf (step s (.snapshot o)).1 o = some s.cur := by
  have hn : s.owners.find? (·.1 == o) = none := Option.map_eq_none_iff.1 hfresh
  simp [step, mapOf, List.find?_append, hn]

theorem step_result_published (s : St) (a : Step) (h : Inv s) (m : Nat) (hr : (step s a).2 = some m) :
    m ∈ (step s a).1.published :=
  step_cases (P := fun x => x.2 = some m → m ∈ x.1.published) s nofun
    (fun _ _ hm e => Option.some.inj e ▸ h.referenced hm) (fun _ => nofun) (fun _ => nofun) (fun _ _ => nofun) a hr

/-- in every execution, every id any step returned is a published (whole) map -/
theorem results_published (s : St) (σ : List Step) (h : Inv s) :
    ∀ r ∈ (run s σ).2, ∀ m, r = some m → m ∈ (run s σ).1.published := by
  induction σ generalizing s with
  | nil => intro r hr; cases hr
  | cons a rest ih =>
    intro r hr m e
    rw [run_cons_snd] at hr
    rw [run_cons_fst]
    rcases List.mem_cons.1 hr with hh | hh
    · have := step_result_published s a h m (hh ▸ e)
      exact (run_published_prefix (step s a).1 rest).subset this
    · exact ih _ (step_inv s a h) r hh m e

/-! ### 3. a snapshot stays stable and alive -/

/-- strongest form: the only side condition is that `o` is not dropped -/
theorem snapshot_stable_and_alive_of_not_dropped (s : St) (σ : List Step) (o m : Nat) (h : Inv s)
    (hm : mapOf s o = some m) (hnd : ∀ a ∈ σ, a ≠ .dropOwner o) :
    mapOf (run s σ).1 o = some m ∧ m ∉ (run s σ).1.freed ∧ m ∈ (run s σ).1.published := by
  have h1 := mapOf_run s σ o m hm hnd
  have hI := run_inv s σ h
  have hmem := mapOf_mem _ o m h1
  exact ⟨h1, hI.live_not_freed m (hI.owner hmem).2, (hI.owner hmem).1⟩

/-- `o` is neither dropped nor re-used as a fresh owner id in `σ`; then, no matter how many
    replacements happen meanwhile, `o` still designates `m` and `m` is not freed -/
theorem snapshot_stable_and_alive (s : St) (σ : List Step) (o m : Nat) (h : Inv s)
    (hm : mapOf s o = some m)
    (hside : ∀ a ∈ σ, a ≠ .dropOwner o ∧ a ≠ .snapshot o ∧ ∀ src, a ≠ .cloneOwner o src) :
    mapOf (run s σ).1 o = some m ∧ m ∉ (run s σ).1.freed :=
  have := snapshot_stable_and_alive_of_not_dropped s σ o m h hm (fun a ha => (hside a ha).1)
  ⟨this.1, this.2.1⟩

/-! ### 4. after a replacement; no lost replacement -/

theorem replace_enabled_effect (s : St) (t n : Nat) (hl : s.lock = some t) (hn : n ∉ s.published) :
    (step s (.replace t n)).1.cur = n ∧ (step s (.replace t n)).1.published = s.published ++ [n] ∧
    (step s (.replace t n)).1.lock = none := by
  simp [step, hl, hn]

theorem cur_is_last (s : St) (h : Inv s) (hne : s.published ≠ []) : s.published.getLast hne = s.cur :=
  (List.getLast_eq_iff_getLast?_eq_some hne).2 h.cur_last

/-- no replacement is lost and none is invented: the sequence of cell values is exactly the
    sequence of enabled replaces, in order -/
theorem no_lost_replace (s : St) (σ : List Step) :
    (run s σ).1.published = s.published ++ enabledReplaces s σ := run_published s σ

/-- and the cell ends up holding the last of them -/
theorem no_lost_replace_cur (s : St) (σ : List Step) (h : Inv s) :
    (run s σ).1.cur = (s.cur :: enabledReplaces s σ).getLast (by simp) := by
  have h1 := (run_inv s σ h).cur_last
  rw [no_lost_replace, List.getLast?_append, h.cur_last, Option.or_some, ← List.getLast?_cons] at h1
  exact ((List.getLast_eq_iff_getLast?_eq_some _).2 h1).symm

theorem after_replace_new (s : St) (t n : Nat) (h : Inv s) (hl : s.lock = some t) (hn : n ∉ s.published) :
    (step s (.replace t n)).1.cur = n ∧
    ∀ (σ : List Step) (o : Nat),
      (step (run (step s (.replace t n)).1 σ).1 (.snapshot o)).2 = some (run (step s (.replace t n)).1 σ).1.cur ∧
      (run (step s (.replace t n)).1 σ).1.published.getLast? = some (run (step s (.replace t n)).1 σ).1.cur ∧
      (∃ later, (run (step s (.replace t n)).1 σ).1.published = s.published ++ n :: later ∧
                (run (step s (.replace t n)).1 σ).1.cur ∈ n :: later) ∧
      (run (step s (.replace t n)).1 σ).1.cur ∉ s.published ∧
      (run (step s (.replace t n)).1 σ).1.published.idxOf n ≤
        (run (step s (.replace t n)).1 σ).1.published.idxOf (run (step s (.replace t n)).1 σ).1.cur := by
  obtain ⟨e1, e2, _⟩ := replace_enabled_effect s t n hl hn
  refine ⟨e1, ?_⟩
  intro σ o
  generalize hs1 : (step s (.replace t n)).1 = s1 at *
  have hI1 : Inv s1 := hs1 ▸ step_inv s (.replace t n) h
  have hI2 := run_inv s1 σ hI1
  generalize hs2 : (run s1 σ).1 = s2 at *
  have hpub : s2.published = s.published ++ n :: enabledReplaces s1 σ := by
    rw [← hs2, run_published, e2]; simp
  have hcur : s2.cur ∈ n :: enabledReplaces s1 σ := by
    rw [← hs2, no_lost_replace_cur s1 σ hI1]
    exact e1 ▸ List.getLast_mem _
  have hnd := hI2.published_nodup
  rw [hpub, List.nodup_append] at hnd
  have hnotin : s2.cur ∉ s.published := fun hc => hnd.2.2 _ hc _ hcur rfl
  refine ⟨rfl, hI2.cur_last, ⟨_, hpub, hcur⟩, hnotin, ?_⟩
  rw [hpub, List.idxOf_append, List.idxOf_append, if_neg hn, if_neg hnotin, List.idxOf_cons_self]
  omega

/-! ### 5. mutual exclusion -/

/-- at most one thread holds the lock: taking it is disabled while it is held; a `replace`
    or `unlock` by a thread that does not hold it changes nothing; taking a free lock makes
    the caller the holder -/
theorem mutual_exclusion (s : St) (t : Nat) :
    (s.lock.isSome → step s (.lock t) = (s, none)) ∧
    (s.lock = none → (step s (.lock t)).1.lock = some t) ∧
    (s.lock ≠ some t → (∀ n, step s (.replace t n) = (s, none)) ∧ step s (.unlock t) = (s, none)) := by
  refine ⟨?_, ?_, ?_⟩
  · intro h
    cases hl : s.lock with
    | none => simp [hl] at h
    | some t' => simp [step, hl]
  · intro h; simp [step, h]
  · intro h
    constructor
    · intro n; simp [step, h]
    · simp [step, h]

theorem lock_acquired_only_when_free (s : St) (a : Step) (t : Nat)
    (h : (step s a).1.lock = some t) : s.lock = some t ∨ (s.lock = none ∧ a = .lock t) := by
  cases a with
  | snapshot o => exact Or.inl h
  | cloneOwner o src =>
    simp only [step] at h
    split at h <;> exact Or.inl h
  | dropOwner o => exact Or.inl h
  | lock t' =>
    simp only [step] at h
    split at h
    · rename_i hn
      simp only [Option.some.injEq] at h
      exact Or.inr ⟨by simpa using hn, by rw [h]⟩
    · exact Or.inl h
  | _ =>
    -- `replace` and `unlock` either release the lock or change nothing
    simp only [step] at h
    split at h
    · simp at h
    · exact Or.inl h

/-- a `replace` takes effect iff its caller holds the lock and the id is fresh; then it
    appends exactly its id, makes it current, and releases the lock -/
theorem replace_effect_iff (s : St) (t n : Nat) :
    ((step s (.replace t n)).1 ≠ s ↔ (s.lock = some t ∧ n ∉ s.published)) ∧
    ((s.lock = some t ∧ n ∉ s.published) →
      (step s (.replace t n)).1.cur = n ∧ (step s (.replace t n)).1.published = s.published ++ [n] ∧
      (step s (.replace t n)).1.lock = none) := by
  refine ⟨⟨fun hne => ?_, fun ⟨hl, hn⟩ e => ?_⟩, fun ⟨hl, hn⟩ => replace_enabled_effect s t n hl hn⟩
  · by_cases hc : s.lock = some t ∧ n ∉ s.published
    · exact hc
    · exact absurd (by simp [step, hc]) hne
  · -- the lock is released by an effective `replace`, so the state has changed
    have := (replace_enabled_effect s t n hl hn).2.2
    rw [e, hl] at this
    cases this

theorem enabled1_holder (s : St) (a : Step) (n : Nat) (h : n ∈ enabled1 s a) :
    ∃ t, a = .replace t n ∧ s.lock = some t ∧ n ∉ s.published ∧ (step s a).1.lock = none ∧ (step s a).1.cur = n := by
  cases a with
  | replace t n' =>
    simp only [enabled1] at h
    split at h
    · rename_i hc
      simp only [List.mem_singleton] at h
      subst h
      obtain ⟨hl, hn⟩ := (replaceEnabled_iff s t n).1 hc
      have := replace_enabled_effect s t n hl hn
      exact ⟨t, rfl, hl, hn, this.2.2, this.1⟩
    · cases h
  | _ => cases h

/-- every id in `enabledReplaces` comes from a `replace` step whose caller held the lock at
    that moment (and which released it) -/
theorem enabledReplaces_holder (s : St) (σ : List Step) (n : Nat) (h : n ∈ enabledReplaces s σ) :
    ∃ pre t post, σ = pre ++ .replace t n :: post ∧ (run s pre).1.lock = some t ∧
      n ∉ (run s pre).1.published ∧ (run s (pre ++ [.replace t n])).1.lock = none ∧
      (run s (pre ++ [.replace t n])).1.cur = n := by
  induction σ generalizing s with
  | nil => cases h
  | cons a rest ih =>
    simp only [enabledReplaces] at h
    rcases List.mem_append.1 h with hh | hh
    · obtain ⟨t, ea, hl, hn, hl', hc⟩ := enabled1_holder s a n hh
      subst ea
      exact ⟨[], t, rest, rfl, hl, hn, hl', hc⟩
    · obtain ⟨pre, t, post, e, hl, hn, hl', hc⟩ := ih (step s a).1 hh
      exact ⟨a :: pre, t, post, by rw [e]; rfl, hl, hn, hl', hc⟩

/-! ### 6. what is freed -/

theorem freed_only_unreferenced (s : St) (h : Inv s) (m : Nat) (hm : m ∈ s.freed) : refs s m = 0 :=
  Nat.eq_zero_of_not_pos fun hp => h.live_not_freed m hp hm

/-- an id once freed stays freed and is never current or owned again, in any continuation -/
theorem freed_never_back (s : St) (σ : List Step) (h : Inv s) (m : Nat) (hm : m ∈ s.freed) :
    m ∈ (run s σ).1.freed ∧ (run s σ).1.cur ≠ m ∧ (∀ o, (o, m) ∉ (run s σ).1.owners) ∧
    (∀ o, mapOf (run s σ).1 o ≠ some m) ∧ refs (run s σ).1 m = 0 := by
  have hf := run_freed_mono s σ m hm
  have hI := run_inv s σ h
  have h0 := freed_only_unreferenced _ hI m hf
  obtain ⟨h1, h2⟩ := (refs_eq_zero_iff _ m).1 h0
  exact ⟨hf, h1, h2, fun o e => h2 o (mapOf_mem _ o m e), h0⟩

/-- in particular no later snapshot returns a freed id -/
theorem freed_never_snapshotted (s : St) (σ : List Step) (o : Nat) (h : Inv s) (m : Nat) (hm : m ∈ s.freed) :
    (step (run s σ).1 (.snapshot o)).2 ≠ some m :=
  fun e => (freed_never_back s σ h m hm).2.1 (Option.some.inj e)

/-- `replace` only publishes fresh ids, so a freed id is never published again -/
theorem freed_not_republished (s : St) (σ : List Step) (h : Inv s) (m : Nat) (hm : m ∈ s.freed) :
    m ∉ enabledReplaces s σ := by
  intro hc
  have hI := run_inv s σ h
  have hnd := hI.published_nodup
  rw [no_lost_replace, List.nodup_append] at hnd
  exact hnd.2.2 m (h.freed_sub m hm) m hc rfl

/-- complement ("no leak"): a published map that nobody references has been freed (true of every state reachable
    from `init`: `freed_iff_unreferenced`) -/
def Complete (s : St) : Prop := ∀ m ∈ s.published, refs s m = 0 → m ∈ s.freed

theorem init_complete (m0 : Nat) : Complete (init m0) := by
  intro m hm h0
  simp only [init, List.mem_singleton] at hm
  subst hm
  simp [refs, init] at h0

theorem complete_collect (s : St) : Complete (collect s) := by
  intro m hm h0
  rw [refs_collect] at h0
  rw [mem_collect_freed]
  by_cases hf : m ∈ s.freed
  · exact Or.inl hf
  · exact Or.inr ⟨hm, h0, hf⟩

theorem complete_add_owner (s : St) (o m : Nat) (h : Complete s) :
    Complete { s with owners := s.owners ++ [(o, m)] } := by
  intro m' hm' h0
  apply h m' hm'
  obtain ⟨h1, h2⟩ := (refs_eq_zero_iff _ m').1 h0
  exact (refs_eq_zero_iff s m').2 ⟨h1, fun o' ho' => h2 o' (List.mem_append_left _ ho')⟩

theorem step_complete (s : St) (a : Step) (h : Complete s) : Complete (step s a).1 :=
  step_cases (P := fun x => Complete x.1) s h (fun o m _ => complete_add_owner s o m h) (fun _ => complete_collect _)
    (fun _ => h) (fun _ _ => complete_collect _) a

theorem run_complete (s : St) (σ : List Step) (h : Complete s) : Complete (run s σ).1 :=
  run_preserves step_complete s σ h

/-- freed = exactly the published maps without a reference, in every reachable state -/
theorem freed_iff_unreferenced (m0 : Nat) (σ : List Step) (m : Nat) :
    m ∈ (run (init m0) σ).1.freed ↔ (m ∈ (run (init m0) σ).1.published ∧ refs (run (init m0) σ).1 m = 0) := by
  have hI := reachable_inv m0 σ
  constructor
  · intro hm
    exact ⟨hI.freed_sub m hm, freed_only_unreferenced _ hI m hm⟩
  · rintro ⟨hp, h0⟩
    exact run_complete _ σ (init_complete m0) m hp h0

/-! ### 7. non-vacuity: an 8-step trace -/

/-- reader 1 snapshots; updater 7 locks and replaces; reader 2 snapshots; updater 8 takes the
    lock; updater 9 is shut out (its `lock` and `replace` are disabled); reader 1 drops -/
def demo : List Step :=
  [.snapshot 1, .lock 7, .replace 7 5, .snapshot 2, .lock 8, .lock 9, .replace 9 6, .dropOwner 1]

/-- after seven steps the first snapshot still keeps map 0 alive although the cell moved on -/
example : (run (init 0) (demo.take 7)).1 =
    { cur := 5, lock := some 8, owners := [(1, 0), (2, 5)], freed := [], published := [0, 5] } := by decide

/-- what the steps returned: first snapshot saw 0, the second saw 5 -/
example : (run (init 0) demo).2 = [some 0, none, none, some 5, none, none, none, none] := by decide

/-- once the first snapshot is dropped, map 0 is freed -/
example : (run (init 0) demo).1 =
    { cur := 5, lock := some 8, owners := [(2, 5)], freed := [0], published := [0, 5] } := by decide

example : mapOf (run (init 0) (demo.take 7)).1 1 = some 0 ∧ 0 ∉ (run (init 0) (demo.take 7)).1.freed ∧
    0 ∈ (run (init 0) demo).1.freed := by decide

example : enabledReplaces (init 0) demo = [5] := by decide

end VmMem.C11

#print axioms VmMem.C11.init_inv
#print axioms VmMem.C11.step_inv
#print axioms VmMem.C11.run_inv
#print axioms VmMem.C11.reachable_inv
#print axioms VmMem.C11.snapshot_is_some_current
#print axioms VmMem.C11.snapshot_owns
#print axioms VmMem.C11.results_published
#print axioms VmMem.C11.snapshot_stable_and_alive_of_not_dropped
#print axioms VmMem.C11.snapshot_stable_and_alive
#print axioms VmMem.C11.replace_enabled_effect
#print axioms VmMem.C11.after_replace_new
#print axioms VmMem.Atomic.run_published_prefix
#print axioms VmMem.C11.mutual_exclusion
#print axioms VmMem.C11.lock_acquired_only_when_free
#print axioms VmMem.C11.replace_effect_iff
#print axioms VmMem.C11.no_lost_replace
#print axioms VmMem.C11.no_lost_replace_cur
#print axioms VmMem.C11.enabledReplaces_holder
#print axioms VmMem.C11.freed_only_unreferenced
#print axioms VmMem.C11.freed_never_back
#print axioms VmMem.C11.freed_never_snapshotted
#print axioms VmMem.C11.freed_not_republished
#print axioms VmMem.C11.freed_iff_unreferenced
