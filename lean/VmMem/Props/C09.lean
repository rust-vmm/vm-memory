/-
  VmMem.Props.C09 — sequential semantics of `AtomicBitmap`: the bitmap is a finite
  set of page numbers `< size`.

  The abstraction function is `ABitmap.bit : ABitmap → Nat → Bool` (bit `p` set and
  `p < size`).  Every operation of the model is specified by its effect on `bit`,
  under the representation invariant `Inv`, which every operation preserves.
-/
import VmMem.Lemmas.BitmapLemmas
namespace VmMem.C09
open VmMem ABitmap

/-- Representation invariant of `AtomicBitmap`. -/
structure Inv (b : ABitmap) : Prop where
  page_pos : 0 < b.page
  size_eq  : b.size = divCeil b.byteSize b.page
  words    : b.map.length = divCeil b.size 64
  clean_tail : ∀ i, b.size ≤ i → i < 64 * b.map.length →
    (b.map.getD (i / 64) 0).getLsbD (i % 64) = false

/-! ### generic facts -/

theorem bit_def (b : ABitmap) (p : Nat) : b.bit p = (decide (p < b.size) && testBit b.map p) := rfl

theorem Inv.size_le {b : ABitmap} (h : Inv b) : b.size ≤ 64 * b.map.length := by
  rw [h.words]; exact le_mul_divCeil _ 64 (by decide)

theorem Inv.word_lt {b : ABitmap} (h : Inv b) {p : Nat} (hp : p < b.size) :
    p / 64 < b.map.length :=
  Nat.div_lt_of_lt_mul (Nat.lt_of_lt_of_le hp h.size_le)

theorem Inv.testBit_false {b : ABitmap} (h : Inv b) (p : Nat) (hp : b.size ≤ p) :
    testBit b.map p = false := by
  by_cases hl : p < 64 * b.map.length
  · exact h.clean_tail p hp hl
  · exact testBit_of_length_le _ _ (by omega)

/-- indices at or beyond `size` are never members -/
theorem out_of_range_clean (b : ABitmap) (p : Nat) (hp : b.size ≤ p) : b.bit p = false := by
  simp [bit, Nat.not_lt.2 hp]

theorem bit_lt_size (b : ABitmap) (p : Nat) (h : b.bit p = true) : p < b.size := by
  simp only [bit, Bool.and_eq_true, decide_eq_true_eq] at h
  exact h.1

theorem runProgram_ok (b : ABitmap) (p : List AStep) (h : p.all (stepInRange b.map) = true) :
    b.runProgram p = .ok { b with map := (runAll b.map p).1 } := by
  unfold runProgram; rw [if_pos h]

theorem testBit_replicate_zero (n p : Nat) : testBit (List.replicate n (0 : BitVec 64)) p = false := by
  unfold testBit
  rw [List.getD_eq_getElem?_getD, List.getElem?_replicate]
  split <;> simp

theorem bit_of_zero_words (b : ABitmap) (n p : Nat) (h : b.map = List.replicate n 0) : b.bit p = false := by
  rw [bit_def, h, testBit_replicate_zero, Bool.and_false]

/-! ### 1. `new` -/

theorem new_inv (bs page : Nat) (hp : 0 < page) : Inv (ABitmap.new bs page) where
  page_pos := hp
  size_eq := rfl
  words := by simp [ABitmap.new]
  clean_tail := fun i _ _ => testBit_replicate_zero _ i

theorem new_clean (bs page : Nat) : ∀ p, (ABitmap.new bs page).bit p = false :=
  fun p => bit_of_zero_words _ _ p rfl

/-! ### 2./3. `set_addr_range` / `reset_addr_range` -/

/-- `set_bit`, `reset_bit`, `set_addr_range`, `reset_addr_range`: a program that sets or clears
    pages `< size` never panics and changes exactly those pages. -/
theorem pageSteps_spec (b : ABitmap) (h : Inv b) (l : List Nat) (set : Bool)
    (hl : ∀ p ∈ l, p < b.size) :
    ∃ b', b.runProgram (pageSteps l set) = .ok b' ∧ Inv b' ∧ b'.size = b.size ∧
      b'.byteSize = b.byteSize ∧ b'.page = b.page ∧
      ∀ p, b'.bit p = if p ∈ l then set else b.bit p := by
  have hw : ∀ n ∈ l, n / 64 < b.map.length := fun n hn => h.word_lt (hl n hn)
  have ht := pageSteps_testBit b.map l set hw
  refine ⟨_, runProgram_ok b _ (pageSteps_inRange b.map l set hw),
    ⟨h.page_pos, h.size_eq, (runAll_length ..).trans h.words, fun i hi hlt => ?_⟩, rfl, rfl, rfl,
    fun p => ?_⟩
  · -- pages at or beyond `size` are not in `l`
    have := ht i
    rw [if_neg fun hc => Nat.not_lt.2 hi (hl i hc)] at this
    exact this.trans (h.clean_tail i hi (runAll_length b.map _ ▸ hlt))
  · show (decide (p < b.size) && testBit _ p) = _
    rw [ht p, bit_def]
    by_cases hc : p ∈ l
    · rw [if_pos hc, if_pos hc, decide_eq_true (hl p hc), Bool.true_and]
    · rw [if_neg hc, if_neg hc]

theorem rangeProgram_spec (b : ABitmap) (h : Inv b) (start len : Nat) (set : Bool) :
    ∃ b', b.setResetAddrRange start len set = .ok b' ∧ Inv b' ∧ b'.size = b.size ∧
      b'.byteSize = b.byteSize ∧ b'.page = b.page ∧
      ∀ p, b'.bit p = if 0 < len ∧ p < b.size ∧ start / b.page ≤ p ∧
        p ≤ saturatingAdd start (len - 1) / b.page then set else b.bit p := by
  rw [setResetAddrRange, rangeProgram_eq]
  simpa only [mem_rangePages] using pageSteps_spec b h _ set
    fun p hp => ((mem_rangePages b start len p).1 hp).2.1

/-- `set_addr_range` / `reset_addr_range` never panic under `Inv` -/
theorem range_ok (b : ABitmap) (h : Inv b) (start len : Nat) (set : Bool) :
    ∃ b', b.setResetAddrRange start len set = .ok b' :=
  (rangeProgram_spec b h start len set).imp fun _ => And.left

theorem mark_ok (b : ABitmap) (h : Inv b) (start len : Nat) :
    ∃ b', b.setResetAddrRange start len true = .ok b' := range_ok b h start len true

theorem clear_ok (b : ABitmap) (h : Inv b) (start len : Nat) :
    ∃ b', b.setResetAddrRange start len false = .ok b' := range_ok b h start len false

theorem markDirty_ok (b : ABitmap) (h : Inv b) (off len : Nat) :
    ∃ b', b.markDirty off len = .ok b' := range_ok b h off len true

/-- `set_addr_range`/`reset_addr_range` set/clear exactly the in-range pages
    `start / page ..= saturating_add(start, len - 1) / page`, and nothing if `len = 0`. -/
theorem mark_spec (b : ABitmap) (h : Inv b) (start len : Nat) (set : Bool) (b' : ABitmap)
    (hr : b.setResetAddrRange start len set = .ok b') :
    Inv b' ∧ b'.size = b.size ∧ b'.byteSize = b.byteSize ∧ b'.page = b.page ∧
    ∀ p, b'.bit p =
      (if 0 < len ∧ p < b.size ∧ start / b.page ≤ p ∧
          p ≤ saturatingAdd start (len - 1) / b.page then set else b.bit p) := by
  obtain ⟨b'', hb'', hspec⟩ := rangeProgram_spec b h start len set
  rw [hb''] at hr
  cases hr
  exact hspec

/-! ### 4. which pages a byte range touches -/

/-- For a non-empty range that does not run past the address space, the pages
    touched are exactly the pages the byte range `[start, start + len)` overlaps. -/
theorem range_pages (page start len p : Nat) (hp : 0 < page) (hl : 0 < len)
    (hfit : start + len ≤ U) :
    (start / page ≤ p ∧ p ≤ saturatingAdd start (len - 1) / page)
      ↔ ∃ a, start ≤ a ∧ a < start + len ∧ a / page = p := by
  have hsat : saturatingAdd start (len - 1) = start + (len - 1) := if_pos (by omega)
  rw [hsat, ← Nat.add_sub_assoc hl]
  exact pages_between page start (start + len) p hp (Nat.lt_add_of_pos_right hl)

/-- the saturating case: a range running past the top of the address space touches
    every page from `start / page` up to the page of the last address `U - 1`. -/
theorem range_pages_saturated (page start len p : Nat) (hp : 0 < page) (hs : start < U)
    (hover : U < start + len) :
    (start / page ≤ p ∧ p ≤ saturatingAdd start (len - 1) / page)
      ↔ ∃ a, start ≤ a ∧ a < U ∧ a / page = p := by
  have hsat : saturatingAdd start (len - 1) = U - 1 := if_neg (by omega)
  rw [hsat]
  exact pages_between page start U p hp hs

/-! ### 5. `set_bit` / `reset_bit` -/

theorem bitProgram_spec (b : ABitmap) (h : Inv b) (i : Nat) (set : Bool) :
    ∃ b', b.setResetBit i set = .ok b' ∧ Inv b' ∧ b'.size = b.size ∧
      b'.byteSize = b.byteSize ∧ b'.page = b.page ∧
      ∀ p, b'.bit p = if p = i ∧ i < b.size then set else b.bit p := by
  have hm : ∀ p, p ∈ (if i < b.size then [i] else []) ↔ p = i ∧ i < b.size := fun p => by
    split <;> simp [*]
  rw [setResetBit, bitProgram_eq]
  simpa only [hm] using pageSteps_spec b h (if i < b.size then [i] else []) set
    fun p hp => by obtain ⟨rfl, hi⟩ := (hm p).1 hp; exact hi

theorem bit_ok (b : ABitmap) (h : Inv b) (i : Nat) (set : Bool) :
    ∃ b', b.setResetBit i set = .ok b' :=
  (bitProgram_spec b h i set).imp fun _ => And.left

/-- `set_bit`/`reset_bit` change exactly bit `i` when `i < size`, nothing otherwise -/
theorem bit_spec (b : ABitmap) (h : Inv b) (i : Nat) (set : Bool) (b' : ABitmap)
    (hr : b.setResetBit i set = .ok b') :
    Inv b' ∧ b'.size = b.size ∧ b'.byteSize = b.byteSize ∧ b'.page = b.page ∧
    ∀ p, b'.bit p = (if p = i ∧ i < b.size then set else b.bit p) := by
  obtain ⟨b'', hb'', hspec⟩ := bitProgram_spec b h i set
  rw [hb''] at hr
  cases hr
  exact hspec

/-! ### 6. queries -/

theorem isBitSet_eq_bit (b : ABitmap) (h : Inv b) (i : Nat) : b.isBitSet i = .ok (b.bit i) := by
  unfold isBitSet bit
  by_cases hi : i < b.size
  · have hl : i / 64 < b.map.length := h.word_lt hi
    rw [if_pos hi, List.getElem?_eq_getElem hl]
    simp only [hi, decide_true, Bool.true_and, List.getD_eq_getElem?_getD,
      List.getElem?_eq_getElem hl, Option.getD_some]
  · rw [if_neg hi]
    simp [hi]

theorem isBitSet_ok (b : ABitmap) (h : Inv b) (i : Nat) : ∃ v, b.isBitSet i = .ok v :=
  ⟨_, isBitSet_eq_bit b h i⟩

theorem isAddrSet_spec (b : ABitmap) (h : Inv b) (addr : Nat) :
    b.isAddrSet addr = .ok (b.bit (addr / b.page)) := isBitSet_eq_bit b h _

theorem isAddrSet_ok (b : ABitmap) (h : Inv b) (addr : Nat) : ∃ v, b.isAddrSet addr = .ok v :=
  ⟨_, isAddrSet_spec b h addr⟩

theorem dirtyAt_spec (b : ABitmap) (h : Inv b) (off : Nat) :
    b.dirtyAt off = .ok (b.bit (off / b.page)) := isBitSet_eq_bit b h _

/-! ### 7. `get_and_reset` -/

theorem cleared_spec (b : ABitmap) (h : Inv b) :
    Inv { b with map := List.replicate b.map.length 0 } ∧
      ∀ p, ({ b with map := List.replicate b.map.length 0 } : ABitmap).bit p = false := by
  exact ⟨⟨h.page_pos, h.size_eq, (List.length_replicate ..).trans h.words,
    fun i _ _ => testBit_replicate_zero _ i⟩, fun p => bit_of_zero_words _ _ p rfl⟩

theorem getAndReset_eq (b : ABitmap) :
    b.getAndReset = ({ b with map := List.replicate b.map.length 0 }, b.map) := by
  unfold getAndReset harvestProgram
  rw [harvest_run]

/-- the harvest returns words that encode exactly the set, and leaves it empty -/
theorem getAndReset_spec (b : ABitmap) (h : Inv b) :
    Inv b.getAndReset.1 ∧
    b.getAndReset.1.size = b.size ∧ b.getAndReset.1.byteSize = b.byteSize ∧
    b.getAndReset.1.page = b.page ∧
    (∀ p, b.getAndReset.1.bit p = false) ∧
    b.getAndReset.2.length = b.map.length ∧
    ∀ p, (p < 64 * b.getAndReset.2.length ∧
          (b.getAndReset.2.getD (p / 64) 0).getLsbD (p % 64) = true) ↔ b.bit p = true := by
  rw [getAndReset_eq]
  refine ⟨(cleared_spec b h).1, rfl, rfl, rfl, (cleared_spec b h).2, rfl, ?_⟩
  intro p
  rw [bit_def, Bool.and_eq_true, decide_eq_true_eq]
  -- a set bit at or beyond `size` contradicts the clean tail
  refine ⟨fun ⟨_, h2⟩ => ⟨Nat.lt_of_not_le fun hn => ?_, h2⟩,
    fun ⟨hp, h2⟩ => ⟨Nat.lt_of_lt_of_le hp h.size_le, h2⟩⟩
  have := h.testBit_false p hn
  unfold testBit at this
  rw [this] at h2
  cases h2

/-- no index `≥ size` appears in the harvested words -/
theorem no_index_beyond_size (b : ABitmap) (h : Inv b) (p : Nat) (hp : b.size ≤ p) :
    (b.getAndReset.2.getD (p / 64) 0).getLsbD (p % 64) = false := by
  rw [getAndReset_eq]
  exact h.testBit_false p hp

/-! ### 8. `reset`, `clone` -/

theorem reset_eq (b : ABitmap) : b.reset = { b with map := List.replicate b.map.length 0 } := by
  unfold ABitmap.reset resetProgram
  rw [reset_run]

theorem reset_spec (b : ABitmap) (h : Inv b) :
    Inv b.reset ∧ b.reset.size = b.size ∧ b.reset.byteSize = b.byteSize ∧
    b.reset.page = b.page ∧ ∀ p, b.reset.bit p = false := by
  rw [reset_eq]
  exact ⟨(cleared_spec b h).1, rfl, rfl, rfl, (cleared_spec b h).2⟩

/-- in the sequential setting `reset` and the state part of `get_and_reset` coincide -/
theorem reset_eq_getAndReset (b : ABitmap) : b.reset = b.getAndReset.1 := by
  rw [reset_eq, getAndReset_eq]

/-- the clone is an equal (and, being a value, independent) bitmap — no hypotheses -/
theorem clone_spec (b : ABitmap) : b.clone = b := by
  unfold ABitmap.clone cloneProgram
  rw [clone_run]

/-! ### 9. `enlarge` -/

theorem resizeWords_ge (m : Words) (n : Nat) (h : m.length ≤ n) :
    resizeWords m n = m ++ List.replicate (n - m.length) 0 := by
  unfold resizeWords
  by_cases hn : n ≤ m.length
  · have : n = m.length := by omega
    subst this
    simp
  · rw [if_neg hn]

theorem testBit_append_zeros (m : Words) (k p : Nat) :
    testBit (m ++ List.replicate k 0) p = testBit m p := by
  unfold testBit
  congr 1
  simp only [List.getD_eq_getElem?_getD, List.getElem?_append]
  by_cases hl : p / 64 < m.length
  · rw [if_pos hl]
  · rw [if_neg hl, List.getElem?_replicate, List.getElem?_eq_none (by omega)]
    split <;> rfl

theorem enlarge_overflow (b : ABitmap) (add : Nat) (h : U ≤ b.byteSize + add) :
    b.enlarge add = .panic := by
  simp [enlarge, addP, Nat.not_lt.2 h]

/-- `enlarge` keeps every existing mark and the new pages are clean -/
theorem enlarge_spec (b : ABitmap) (h : Inv b) (add : Nat) (hfit : b.byteSize + add < U) :
    ∃ b', b.enlarge add = .ok b' ∧ Inv b' ∧ b.size ≤ b'.size ∧
      b'.byteSize = b.byteSize + add ∧ b'.page = b.page ∧ ∀ p, b'.bit p = b.bit p := by
  have hsz : b.size ≤ divCeil (b.byteSize + add) b.page := by
    rw [h.size_eq]; exact divCeil_mono _ _ _ (by omega)
  have hlen : b.map.length ≤ divCeil (divCeil (b.byteSize + add) b.page) 64 := by
    rw [h.words]; exact divCeil_mono _ _ _ hsz
  refine ⟨{ b with byteSize := b.byteSize + add,
                   size := divCeil (b.byteSize + add) b.page,
                   map := b.map ++ List.replicate
                     (divCeil (divCeil (b.byteSize + add) b.page) 64 - b.map.length) 0 },
          ?_, ?_, hsz, rfl, rfl, ?_⟩
  · simp [enlarge, addP, hfit, resizeWords_ge _ _ hlen]
  · refine ⟨h.page_pos, rfl, ?_, fun i hi _ =>
      (testBit_append_zeros b.map _ i).trans (h.testBit_false i (Nat.le_trans hsz hi))⟩
    simp only [List.length_append, List.length_replicate]
    omega
  · intro p
    rw [bit_def, bit_def]
    rw [testBit_append_zeros]
    by_cases hp : p < b.size
    · simp [hp, Nat.lt_of_lt_of_le hp hsz]
    · rw [h.testBit_false p (Nat.le_of_not_lt hp)]
      simp

/-! ### 10. slices (`BaseSlice`: `base.wrapping_add(offset)`) -/

theorem sliceAt_sliceAt (base o1 o2 : Nat) (_h1 : o1 < U) (_h2 : o2 < U) (_hb : base < U) :
    sliceAt (sliceAt base o1) o2 = sliceAt base ((o1 + o2) % U) :=
  wrappingAdd_wrappingAdd base o1 o2

theorem sliceAt_lt (base off : Nat) : sliceAt base off < U :=
  Nat.mod_lt _ (by decide)

theorem markVia_spec (b : ABitmap) (base off len : Nat) :
    markVia b base off len = b.setResetAddrRange ((base + off) % U) len true := rfl

theorem dirtyVia_spec (b : ABitmap) (base off : Nat) :
    dirtyVia b base off = b.isAddrSet ((base + off) % U) := rfl

/-- marking through a slice of a slice = marking through the composed slice -/
theorem markVia_sliceAt (b : ABitmap) (base o1 off len : Nat) :
    markVia b (sliceAt base o1) off len = markVia b base ((o1 + off) % U) len :=
  congrArg (fun a => b.markDirty a len) (wrappingAdd_wrappingAdd base o1 off)

theorem dirtyVia_sliceAt (b : ABitmap) (base o1 off : Nat) :
    dirtyVia b (sliceAt base o1) off = dirtyVia b base ((o1 + off) % U) :=
  congrArg b.dirtyAt (wrappingAdd_wrappingAdd base o1 off)

/-- the pages a mark through a slice sets -/
theorem markVia_bits (b : ABitmap) (h : Inv b) (base off len : Nat) :
    ∃ b', markVia b base off len = .ok b' ∧ Inv b' ∧
      ∀ p, b'.bit p =
        (if 0 < len ∧ p < b.size ∧ sliceAt base off / b.page ≤ p ∧
            p ≤ saturatingAdd (sliceAt base off) (len - 1) / b.page then true else b.bit p) := by
  obtain ⟨b', hb', hi, -, -, -, hbits⟩ := rangeProgram_spec b h (sliceAt base off) len true
  exact ⟨b', hb', hi, hbits⟩

/-! ### 11. histories -/

inductive Op where
  | mark (start len : Nat)
  | clear (start len : Nat)
  | setBit (i : Nat)
  | resetBit (i : Nat)
  | harvest
  | reset
  | enlarge (add : Nat)
  deriving Repr, DecidableEq

def step (b : ABitmap) : Op → Res ABitmap
  | .mark start len  => b.setResetAddrRange start len true
  | .clear start len => b.setResetAddrRange start len false
  | .setBit i        => b.setResetBit i true
  | .resetBit i      => b.setResetBit i false
  | .harvest         => .ok b.getAndReset.1
  | .reset           => .ok b.reset
  | .enlarge add     => b.enlarge add

def runOps (b : ABitmap) : List Op → Res ABitmap
  | [] => .ok b
  | op :: rest => step b op >>= fun b' => runOps b' rest

/-- bytes by which an op grows the tracked region -/
def Op.grow : Op → Nat
  | .enlarge add => add
  | _ => 0

def growth (ops : List Op) : Nat := (ops.map Op.grow).sum

/-- the set-level specification: a bitmap is `(members, size, byteSize, page)` -/
structure ASet where
  mem : Nat → Bool
  size : Nat
  byteSize : Nat
  page : Nat

def abs (b : ABitmap) : ASet := ⟨b.bit, b.size, b.byteSize, b.page⟩

def inRange (a : ASet) (start len p : Nat) : Prop :=
  0 < len ∧ p < a.size ∧ start / a.page ≤ p ∧ p ≤ saturatingAdd start (len - 1) / a.page

instance (a : ASet) (start len p : Nat) : Decidable (inRange a start len p) := by
  unfold inRange; infer_instance

def specStep (a : ASet) : Op → ASet
  | .mark start len  => { a with mem := fun p => if inRange a start len p then true else a.mem p }
  | .clear start len => { a with mem := fun p => if inRange a start len p then false else a.mem p }
  | .setBit i        => { a with mem := fun p => if p = i ∧ i < a.size then true else a.mem p }
  | .resetBit i      => { a with mem := fun p => if p = i ∧ i < a.size then false else a.mem p }
  | .harvest         => { a with mem := fun _ => false }
  | .reset           => { a with mem := fun _ => false }
  | .enlarge add     => { a with byteSize := a.byteSize + add,
                                 size := divCeil (a.byteSize + add) a.page }

theorem abs_eq {b b' : ABitmap} {f : Nat → Bool}
    (h : b'.size = b.size ∧ b'.byteSize = b.byteSize ∧ b'.page = b.page ∧ ∀ p, b'.bit p = f p) :
    abs b' = { abs b with mem := f } := by
  simp only [abs, h.1, h.2.1, h.2.2.1, funext h.2.2.2]

/-- every op refines its set-level specification, never panics (enlarge: under the
    no-overflow guard) and preserves `Inv` -/
theorem step_refines (b : ABitmap) (h : Inv b) (op : Op) (hsafe : b.byteSize + op.grow < U) :
    ∃ b', step b op = .ok b' ∧ Inv b' ∧ abs b' = specStep (abs b) op := by
  cases op with
  | mark start len =>
    obtain ⟨b', hb', hi, hspec⟩ := rangeProgram_spec b h start len true
    exact ⟨b', hb', hi, abs_eq hspec⟩
  | clear start len =>
    obtain ⟨b', hb', hi, hspec⟩ := rangeProgram_spec b h start len false
    exact ⟨b', hb', hi, abs_eq hspec⟩
  | setBit i =>
    obtain ⟨b', hb', hi, hspec⟩ := bitProgram_spec b h i true
    exact ⟨b', hb', hi, abs_eq hspec⟩
  | resetBit i =>
    obtain ⟨b', hb', hi, hspec⟩ := bitProgram_spec b h i false
    exact ⟨b', hb', hi, abs_eq hspec⟩
  | harvest =>
    obtain ⟨hi, h1, h2, h3, h4, -⟩ := getAndReset_spec b h
    exact ⟨_, rfl, hi, abs_eq ⟨h1, h2, h3, h4⟩⟩
  | reset =>
    obtain ⟨hi, hspec⟩ := reset_spec b h
    exact ⟨_, rfl, hi, abs_eq hspec⟩
  | enlarge add =>
    obtain ⟨b', hb', hi, -, h2, h3, h4⟩ := enlarge_spec b h add hsafe
    refine ⟨b', hb', hi, ?_⟩
    simp only [abs, specStep, hi.size_eq, h2, h3, funext h4]

theorem specStep_byteSize (a : ASet) (op : Op) :
    (specStep a op).byteSize = a.byteSize + op.grow ∧ (specStep a op).page = a.page := by
  cases op <;> exact ⟨rfl, rfl⟩

/-- For every finite op sequence from a bitmap satisfying `Inv`, provided the total
    growth keeps `byteSize` below `2^64`: no op panics, `Inv` holds at the end, the
    final state is the one computed by the set-level specification, and every
    member is `< size`. -/
theorem inv_history (b : ABitmap) (h : Inv b) (ops : List Op)
    (hsafe : b.byteSize + growth ops < U) :
    ∃ b', runOps b ops = .ok b' ∧ Inv b' ∧ abs b' = ops.foldl specStep (abs b) ∧
      b'.byteSize = b.byteSize + growth ops ∧ b'.page = b.page ∧
      ∀ p, b'.bit p = true → p < b'.size := by
  induction ops generalizing b with
  | nil => exact ⟨b, rfl, h, rfl, rfl, rfl, bit_lt_size b⟩
  | cons op rest ih =>
    have hg : growth (op :: rest) = op.grow + growth rest := rfl
    rw [hg] at hsafe
    obtain ⟨b1, hb1, hi1, ha1⟩ := step_refines b h op (by omega)
    obtain ⟨hbs, hpg⟩ := specStep_byteSize (abs b) op
    rw [← ha1] at hbs hpg
    simp only [abs] at hbs hpg
    obtain ⟨b', hb', hi', ha', hbs', hpg', hlt⟩ := ih b1 hi1 (by omega)
    refine ⟨b', ?_, hi', ?_, ?_, ?_, hlt⟩
    · simp only [runOps, hb1, Res.bind_ok]; exact hb'
    · rw [List.foldl_cons, ← ha1]; exact ha'
    · rw [hbs', hbs, hg]; omega
    · rw [hpg', hpg]

theorem runOps_append (b : ABitmap) (pre suf : List Op) :
    runOps b (pre ++ suf) = (runOps b pre >>= fun b' => runOps b' suf) := by
  induction pre generalizing b with
  | nil => rfl
  | cons op rest ih =>
    simp only [List.cons_append, runOps]
    cases step b op with
    | ok b1 => simp only [Res.bind_ok]; exact ih b1
    | err e => rfl
    | panic => rfl

theorem growth_append (pre suf : List Op) : growth (pre ++ suf) = growth pre + growth suf := by
  simp [growth]

/-- `Inv` holds after EVERY prefix of a safe history, and the rest of the history
    continues from that intermediate bitmap -/
theorem inv_history_prefix (b : ABitmap) (h : Inv b) (pre suf : List Op)
    (hsafe : b.byteSize + growth (pre ++ suf) < U) :
    ∃ b₁, runOps b pre = .ok b₁ ∧ Inv b₁ ∧ (∀ p, b₁.bit p = true → p < b₁.size) ∧
      runOps b (pre ++ suf) = runOps b₁ suf := by
  rw [growth_append] at hsafe
  obtain ⟨b₁, hb₁, hi₁, _, _, _, hlt⟩ := inv_history b h pre (by omega)
  refine ⟨b₁, hb₁, hi₁, hlt, ?_⟩
  rw [runOps_append, hb₁, Res.bind_ok]

/-- the headline statement, from a freshly created bitmap -/
theorem new_history (bs page : Nat) (hp : 0 < page) (ops : List Op)
    (hsafe : bs + growth ops < U) :
    ∃ b', runOps (ABitmap.new bs page) ops = .ok b' ∧ Inv b' ∧
      abs b' = ops.foldl specStep ⟨fun _ => false, divCeil bs page, bs, page⟩ ∧
      ∀ p, b'.bit p = true → p < b'.size := by
  obtain ⟨b', hb', hi', ha', _, _, hlt⟩ := inv_history _ (new_inv bs page hp) ops hsafe
  refine ⟨b', hb', hi', ?_, hlt⟩
  rw [ha', abs_eq (b := ABitmap.new bs page) ⟨rfl, rfl, rfl, new_clean bs page⟩]
  rfl

/-- and an overflowing `enlarge` is the only way a history can panic: it does -/
theorem history_overflow_panics (b : ABitmap) (h : Inv b) (pre : List Op) (add : Nat)
    (suf : List Op) (hpre : b.byteSize + growth pre < U) (hover : U ≤ b.byteSize + growth pre + add) :
    runOps b (pre ++ .enlarge add :: suf) = .panic := by
  obtain ⟨b₁, hb₁, _, _, hbs, _, _⟩ := inv_history b h pre hpre
  rw [runOps_append, hb₁, Res.bind_ok]
  simp only [runOps, step]
  rw [enlarge_overflow b₁ add (by omega)]
  rfl

/-! ### non-vacuity -/

/-- 1000 bytes / 128-byte pages: 8 pages in one word -/
example : (ABitmap.new 1000 128).size = 8 ∧ (ABitmap.new 1000 128).map.length = 1 := by decide

/-- marking bytes `[120, 130)` sets exactly pages 0 and 1 (two `fetch_or`s on word 0).
    `rangeSteps` is defined by well-founded recursion; the page-list form of the program evaluates. -/
theorem ex_mark : (ABitmap.new 1000 128).setResetAddrRange 120 10 true
    = .ok ⟨[3#64], 8, 1000, 128⟩ := by
  unfold setResetAddrRange
  rw [rangeProgram_eq]
  decide

example : (⟨[3#64], 8, 1000, 128⟩ : ABitmap).bit 0 = true
    ∧ (⟨[3#64], 8, 1000, 128⟩ : ABitmap).bit 1 = true
    ∧ (⟨[3#64], 8, 1000, 128⟩ : ABitmap).bit 2 = false := by decide

/-- the same through `mark_spec` (no evaluation of the program) -/
example (b' : ABitmap) (hr : (ABitmap.new 1000 128).setResetAddrRange 120 10 true = .ok b') :
    b'.bit 0 = true ∧ b'.bit 1 = true ∧ b'.bit 2 = false := by
  obtain ⟨_, _, _, _, hb⟩ := mark_spec _ (new_inv 1000 128 (by decide)) 120 10 true b' hr
  refine ⟨?_, ?_, ?_⟩
  · rw [hb 0]; decide
  · rw [hb 1]; decide
  · rw [hb 2]; decide

/-- a harvest after the mark returns word `3` and leaves the bitmap clean -/
example : (⟨[3#64], 8, 1000, 128⟩ : ABitmap).getAndReset = (⟨[0#64], 8, 1000, 128⟩, [3#64]) := by
  decide

/-- `Inv` is needed: a bitmap whose word vector is too short panics -/
example : (⟨[], 8, 1000, 128⟩ : ABitmap).setResetBit 0 true = .panic := by decide
example : (⟨[], 8, 1000, 128⟩ : ABitmap).isBitSet 0 = .panic := by decide

end VmMem.C09

#print axioms VmMem.C09.new_inv
#print axioms VmMem.C09.new_clean
#print axioms VmMem.C09.mark_ok
#print axioms VmMem.C09.clear_ok
#print axioms VmMem.C09.range_ok
#print axioms VmMem.C09.markDirty_ok
#print axioms VmMem.C09.bit_ok
#print axioms VmMem.C09.isBitSet_ok
#print axioms VmMem.C09.isAddrSet_ok
#print axioms VmMem.C09.mark_spec
#print axioms VmMem.C09.range_pages
#print axioms VmMem.C09.range_pages_saturated
#print axioms VmMem.C09.bit_spec
#print axioms VmMem.C09.isBitSet_eq_bit
#print axioms VmMem.C09.out_of_range_clean
#print axioms VmMem.C09.isAddrSet_spec
#print axioms VmMem.C09.dirtyAt_spec
#print axioms VmMem.C09.getAndReset_spec
#print axioms VmMem.C09.no_index_beyond_size
#print axioms VmMem.C09.reset_spec
#print axioms VmMem.C09.reset_eq_getAndReset
#print axioms VmMem.C09.clone_spec
#print axioms VmMem.C09.enlarge_spec
#print axioms VmMem.C09.enlarge_overflow
#print axioms VmMem.C09.sliceAt_sliceAt
#print axioms VmMem.C09.markVia_spec
#print axioms VmMem.C09.dirtyVia_spec
#print axioms VmMem.C09.markVia_sliceAt
#print axioms VmMem.C09.dirtyVia_sliceAt
#print axioms VmMem.C09.markVia_bits
#print axioms VmMem.C09.step_refines
#print axioms VmMem.C09.inv_history
#print axioms VmMem.C09.inv_history_prefix
#print axioms VmMem.C09.new_history
#print axioms VmMem.C09.history_overflow_panics
