/-
  VmMem.Props.C14g — stream transfers at GUEST-MEMORY level lose or duplicate nothing.

  `GuestMemory::{read_volatile_from, read_exact_volatile_from, write_volatile_to,
  write_all_volatile_to}` run `try_access` with a callback that calls the region-level stream
  form on one region chunk.  Everything below is stated against the flat sparse byte array
  `flat m : Nat → Option UInt8` of `VmMem.Lemmas.FlatLemmas` and quantifies over ALL fault
  scripts (`Beh`: full / short k / zero / eintr / fail, any length).

  Standing hypotheses
    * `GWF m`            well-formed memory (layout `WF` + sane containers);
    * `r.kind ≠ .fd`     the reader is not a raw descriptor (a failing `read(2)` marks the whole
                         target dirty, which `flat` does not see: no proof below uses the hypothesis);
                         writers: `w.kind = .scripted` (the harness stream, default all-loop);
    * `count < U`        a `usize`;
    * writers only: `HostFit m` — no host allocation ends exactly at `2^64`
                         (`host_top_counterexample` shows what the model does otherwise).

  What the model (= the crate) does that a reader might not expect, stated exactly in
  `read_from_guest`: a stream error in a LATER iteration is returned as the result although
  `k > 0` bytes were already moved (and stay moved); an `Ok(0)` from the stream in a later
  iteration ends the transfer with `Ok(total)`.
-/
import VmMem.Lemmas.FlatLemmas
import VmMem.Lemmas.IoLemmas
import VmMem.Props.C03
import VmMem.Props.C14
namespace VmMem
namespace C14g
open GuestLemmas DataLemmas FlatLemmas LoopLemmas
open C03 (overlay)

/-! ## 1. the reader callback -/

/-- the callback of `GMem.readVolatileFrom`: `region.read_volatile_from(caddr, src, len)` -/
def rvcb : GMem → Reader → Nat → Nat → Nat → Nat → GMem × Reader × Res Nat :=
  fun m src _total len start idx =>
    match m[idx]? with
    | none => (m, src, .panic)
    | some reg =>
      let (reg', src', x) := reg.readVolatileFrom start src len
      (m.setRegion idx reg', src', x)

theorem readVolatileFrom_eq_loop (m : GMem) (addr : Nat) (src : Reader) (count : Nat) :
    m.readVolatileFrom addr src count = GMem.tryAccess rvcb m src count addr := by
  unfold GMem.readVolatileFrom rvcb
  rfl

/-! ### the region-level up-to form, evaluated -/

theorem splice_eq (l : List UInt8) (o : Nat) (d : List UInt8) :
    IoLemmas.splice l o d = DataLemmas.splice l o d := rfl

/-- `VolatileSlice::read_volatile_from(addr, src, count)` with `addr < s.size`: as
    `C14.in_order_no_gap_no_dup`, but for a container that may end exactly at `2^64`
    (`≤ U`): the up-to form never forms the one-past-the-end pointer. -/
theorem slice_readVolatileFrom_spec (m : Mem) (s : VSlice) (addr : Nat) (r : Reader) (count : Nat)
    (hk : r.kind ≠ .fd) (hbm : IoLemmas.BmInv m) (hin : IoLemmas.InB m s)
    (hU : m.base + m.bytes.length ≤ U) (hsz : s.size < U) (ha : addr < s.size) :
    ∃ m' r' res k, s.readVolatileFrom m addr r count = (m', r', res) ∧
      k ≤ min (s.size - addr) count ∧ k ≤ r.avail.length ∧
      r'.avail = r.avail.drop k ∧ r'.kind = r.kind ∧
      m'.bytes = DataLemmas.splice m.bytes (s.addr - m.base + addr) (r.avail.take k) ∧
      m'.base = m.base ∧ IoLemmas.BmInv m' ∧
      (res = .ok k ∨ (k = 0 ∧ res = .err (.ioError IoKind.other))) ∧
      (r.script = [] → k = min (min (s.size - addr) count) r.avail.length ∧ res = .ok k ∧
        r'.script = []) := by
  have hin' := hin
  unfold IoLemmas.InB at hin'
  obtain ⟨m', r', x, h, hc⟩ :=
    IoLemmas.readVolatileFrom_spec m s addr r count hbm hin (by omega) hsz (Nat.le_of_lt ha)
  have hsk : r.script = [] → r.skipEintr.script = [] := fun hs => by simp [Reader.skipEintr, hs]
  rcases hc with ⟨n, hx, rfl, rfl, hmv⟩ | ⟨hf, rfl, rfl, hmv⟩
  · refine ⟨m', _, _, n, h, (IoLemmas.xfer_le hx).1, hmv.le, hmv.avail, hmv.kind, hmv.bytes, hmv.base, hmv.bm,
      .inl rfl, fun hs => ?_⟩
    rw [hsk hs] at hx
    simp only [IoLemmas.hd, IoLemmas.xfer, Option.some.injEq] at hx
    exact ⟨hx.symm, rfl, by simp [hsk hs]⟩
  · refine ⟨m', _, _, 0, h, Nat.zero_le _, hmv.le, hmv.avail, hmv.kind, hmv.bytes, hmv.base, hmv.bm,
      .inr ⟨rfl, rfl⟩, fun hs => ?_⟩
    rw [hsk hs] at hf
    cases hf

theorem Region.readVolatileFrom_eq (r : Region) (hl : r.len < U) (a : Nat) (src : Reader)
    (count : Nat) :
    r.readVolatileFrom a src count =
      ({ r with mem := ((rootSlice r).readVolatileFrom r.mem a src count).1 },
       ((rootSlice r).readVolatileFrom r.mem a src count).2.1,
       ((rootSlice r).readVolatileFrom r.mem a src count).2.2.mapErr Res.toGuestErr) := by
  unfold Region.readVolatileFrom
  rw [asVolatileSlice_eq r hl]
  rfl

theorem Region.readVolatileFrom_spec (r : Region) (hr : RegWF r) (a : Nat) (ha : a < r.len)
    (src : Reader) (hk : src.kind ≠ .fd) (count : Nat) :
    ∃ mem' src' res k, r.readVolatileFrom a src count = ({ r with mem := mem' }, src', res) ∧
      k ≤ min (r.len - a) count ∧ k ≤ src.avail.length ∧
      src'.avail = src.avail.drop k ∧ src'.kind = src.kind ∧
      mem'.bytes = DataLemmas.splice r.mem.bytes a (src.avail.take k) ∧
      mem'.base = r.mem.base ∧ DataLemmas.BmInv mem' ∧
      (res = .ok k ∨ (k = 0 ∧ res = .err (.ioError IoKind.other))) ∧
      (src.script = [] → k = min (min (r.len - a) count) src.avail.length ∧ res = .ok k ∧
        src'.script = []) := by
  obtain ⟨m', r', res, k, h, hk1, hk2, hav, hkind, hb, hbase, hinv, hres, hplain⟩ :=
    slice_readVolatileFrom_spec r.mem (rootSlice r) a src count hk hr.inv (rootSlice_inside r)
      hr.fits hr.len_lt ha
  rw [show (rootSlice r).addr - r.mem.base = 0 from rootSlice_ofs r, Nat.zero_add] at hb
  refine ⟨m', r', res.mapErr Res.toGuestErr, k, ?_, hk1, hk2, hav, hkind, hb, hbase, hinv, ?_, ?_⟩
  · rw [Region.readVolatileFrom_eq r hr.len_lt, h]
  · rcases hres with h1 | ⟨h0, h1⟩
    · left; rw [h1]; rfl
    · right; rw [h1]; exact ⟨h0, rfl⟩
  · intro hs
    obtain ⟨e1, e2, e3⟩ := hplain hs
    exact ⟨e1, by rw [e2]; rfl, e3⟩

theorem flat_spliced {m : GMem} (h : WF m) {i : Nat} {r : Region} (hi : m[i]? = some r)
    {mem' : Mem} {w : Nat} {d : List UInt8}
    (hb : mem'.bytes = DataLemmas.splice r.mem.bytes w d) (hbase : mem'.base = r.mem.base)
    (hw : w + d.length ≤ r.len) (a : Nat) :
    flat (m.set i { r with mem := mem' }) a =
      if r.start + w ≤ a ∧ a < r.start + w + d.length then d[a - (r.start + w)]? else flat m a :=
  congrFun (flat_splice h hi hb hbase hw) a

theorem rvcb_step {m : GMem} (h : GWF m) {cur i : Nat} {r : Region}
    (hi : m[i]? = some r) (hin : r.start ≤ cur ∧ cur < r.start + r.len)
    (src : Reader) (hk : src.kind ≠ .fd) (total len : Nat) :
    ∃ mem' src' res k,
      rvcb m src total len (cur - r.start) i = (m.set i { r with mem := mem' }, src', res) ∧
      k ≤ min (r.len - (cur - r.start)) len ∧ k ≤ src.avail.length ∧
      src'.avail = src.avail.drop k ∧ src'.kind = src.kind ∧
      mem'.bytes = DataLemmas.splice r.mem.bytes (cur - r.start) (src.avail.take k) ∧
      mem'.base = r.mem.base ∧ DataLemmas.BmInv mem' ∧
      (res = .ok k ∨ (k = 0 ∧ res = .err (.ioError IoKind.other))) ∧
      (src.script = [] → k = min (min (r.len - (cur - r.start)) len) src.avail.length ∧
        res = .ok k ∧ src'.script = []) := by
  obtain ⟨mem', src', res, k, hcall, hrest⟩ :=
    Region.readVolatileFrom_spec r (h.regWF hi) (cur - r.start) (by omega) src hk len
  refine ⟨mem', src', res, k, ?_, hrest⟩
  unfold rvcb
  simp only [hi, hcall]
  rfl

/-- `k` bytes into the walk of `read_volatile_from` that started on `(m, src)` at `cur` -/
structure Readv (m : GMem) (src : Reader) (cur k : Nat) (m' : GMem) (src' : Reader) : Prop where
  le : k ≤ src.avail.length
  avail : src'.avail = src.avail.drop k
  kind : src'.kind = src.kind
  layout : SameLayout m m'
  gwf : GWF m'
  flat : flat m' = overlay (flat m) cur (src.avail.take k)
  hole : ¬ mapped m cur → m' = m ∧ src' = src
  plain : src.script = [] → src'.script = []

/-- `read_from_guest` from any point `(cur, total)` of the walk -/
theorem loop_readv {count : Nat} (hc : count < U) (addr : Nat) (m : GMem) (src : Reader) (cur total : Nat)
    (h : GWF m) (hk : src.kind ≠ .fd) (ht : total < count) :
    ∃ m' src' res k, GMem.tryAccessLoop rvcb count addr m src cur total = (m', src', res) ∧
      k ≤ runLen m cur (count - total) ∧ k ≤ src.avail.length ∧
      src'.avail = src.avail.drop k ∧ src'.kind = src.kind ∧
      SameLayout m m' ∧ GWF m' ∧
      (∀ a, flat m' a =
        if cur ≤ a ∧ a < cur + k then (src.avail.take k)[a - cur]? else flat m a) ∧
      (¬ mapped m cur → m' = m ∧ src' = src) ∧
      (res = .ok (total + k) ∨ (res = .err (.ioError IoKind.other) ∧ total + k < count) ∨
        (total = 0 ∧ ¬ mapped m cur ∧ res = .err (.invalidGuestAddress addr))) ∧
      (src.script = [] → k = min (runLen m cur (count - total)) src.avail.length ∧
        src'.script = [] ∧ res ≠ .err (.ioError IoKind.other)) := by
  refine (loop_run rvcb hc addr m src cur total ht (Readv m src cur)
    (fun m' src' res k => Readv m src cur k m' src' ∧ k ≤ runLen m cur (count - total) ∧
      (res = .ok (total + k) ∨ (res = .err (.ioError IoKind.other) ∧ total + k < count) ∨
        (total = 0 ∧ ¬ mapped m cur ∧ res = .err (.invalidGuestAddress addr))) ∧
      (src.script = [] → k = min (runLen m cur (count - total)) src.avail.length ∧
        res ≠ .err (.ioError IoKind.other)))
    (fun hI => ⟨hI.gwf.1.toWFT, hI.layout.mapped⟩) ?_ ?_
    ⟨Nat.zero_le _, rfl, rfl, SameLayout.refl m, h, (overlay_nil _ _).symm, fun _ => ⟨rfl, rfl⟩, id⟩).elim ?_
  · -- the run is exhausted
    intro m' src' hI
    refine ⟨hI, Nat.le_refl _, ?_, fun _ => ⟨(Nat.min_eq_left hI.le).symm, ?_⟩⟩
    · by_cases hz : runLen m cur (count - total) = 0 ∧ total = 0
      · rw [if_pos hz]
        exact .inr (.inr ⟨hz.2, (runLen_eq_zero_iff m cur (Nat.sub_pos_of_lt ht)).1 hz.1, rfl⟩)
      · rw [if_neg hz]; exact .inl rfl
    · split <;> simp
  · -- one call of the callback with `k` bytes done: `k0` more, whatever `k0`
    rintro k m' src' i r ⟨h1, h2, h3, h4, h5, h6, h7, h8⟩ hi hin htk len hlen hpos hkl
    obtain ⟨mem', src1, res0, k0, hcb, hk0, hk0a, hav0, hkind0, hb0, hbase0, hinv0, hres0, hpl0⟩ :=
      rvcb_step h5 hi hin src' (by rw [h3]; exact hk) (total + k) len
    rw [h2] at hb0
    rw [h2, List.length_drop] at hk0a hpl0
    have hkr : k ≤ runLen m cur (count - total) := Nat.le_trans (Nat.le_add_right k len) hkl
    have hw : cur + k - r.start + ((src.avail.drop k).take k0).length ≤ r.len :=
      off_add_le hin (Nat.le_trans (List.length_take_le _ _) (Nat.le_trans hk0 (Nat.min_le_left _ _)))
    have hkey := key_with_mem r (by rw [hb0]; exact splice_length _ _ _ hw) hbase0
    have hmap : mapped m cur := runLen_mapped m cur (count - total) 0
      (Nat.lt_of_lt_of_le hpos (Nat.le_trans (Nat.le_add_left len k) hkl))
    -- the invariant `k0` bytes further on, whatever the callback answered
    have hI : Readv m src cur (k + k0) (m'.set i { r with mem := mem' }) src1 := by
      refine ⟨Nat.add_le_of_le_sub' h1 hk0a, by rw [hav0, h2, List.drop_drop], hkind0.trans h3,
        h4.trans (SameLayout.set hi hkey), h5.set hi hkey hinv0, ?_, fun hn => absurd hmap hn,
        fun hs => (hpl0 (h8 hs)).2.2⟩
      rw [flat_splice h5.1 hi hb0 hbase0 hw, h6, ← overlay_take_add _ _ _ k0 h1, Nat.add_sub_cancel' hin.1]
    rw [hcb]
    rcases hres0 with rfl | ⟨rfl, rfl⟩
    · by_cases hz : k0 = 0
      · subst hz
        refine .zero ⟨k, hI, hkr, .inl rfl, fun hs => ⟨?_, by simp⟩⟩
        -- a well-behaved stream moved nothing of a non-empty chunk: it is at its end
        have hA : 0 < min (r.len - (cur + k - r.start)) len :=
          Nat.lt_min.2 ⟨Nat.lt_of_lt_of_le hpos (hlen ▸ Nat.min_le_left _ _), hpos⟩
        have hend : src.avail.length ≤ k := Nat.le_of_sub_eq_zero
          ((Nat.min_eq_zero_iff.1 (hpl0 (h8 hs)).1.symm).resolve_left (Nat.ne_of_gt hA))
        rw [Nat.min_eq_right (Nat.le_trans hend hkr)]
        exact Nat.le_antisymm h1 hend
      · exact .ok (Nat.pos_of_ne_zero hz) (Nat.le_trans hk0 (Nat.min_le_right _ _)) hI
    · exact .err ⟨k, hI, hkr, .inr (.inl ⟨rfl, htk⟩),
        fun hs => by have := (hpl0 (h8 hs)).2.1; cases this⟩
  · rintro m' ⟨src', res, k, e, ⟨h1, h2, h3, h4, h5, h6, h7, h8⟩, hk, hres, hpl⟩
    exact ⟨m', src', res, k, e, hk, h1, h2, h3, h4, h5,
      fun a => by rw [h6, overlay_apply _ _ (List.length_take_of_le h1)], h7, hres,
      fun hs => ⟨(hpl hs).1, h8 hs, (hpl hs).2⟩⟩

/-! ## 2. `read_volatile_from` / `read_exact_volatile_from` on guest memory -/

/-- `GuestMemory::read_volatile_from(addr, src, count)` on a
    well-formed memory, for a reader that is not a raw descriptor, for EVERY script:
    * `count = 0`: `Ok(0)`, nothing touched (the callback is never called);
    * first address unmapped: `InvalidGuestAddress(addr)`, nothing touched, reader untouched;
    * otherwise some `k ≤ runLen m addr count` bytes left the reader (`r'.avail = r.avail.drop k`)
      and exactly these are stored, in order, at the guest addresses `addr .. addr + k` — across
      region boundaries, none dropped, none duplicated; every other byte of the flat memory is
      unchanged (`frame_guest`); layout and well-formedness are kept.  The call returns `Ok(k)`,
      or the stream's own error.  **Model (= crate) behaviour, stated exactly:** when the stream
      fails in a LATER iteration `try_access` returns that error although `k > 0` bytes were
      already moved (`k` can be positive in the error case; it is `< count`).
      Never `Interrupted`, never a panic. -/
theorem read_from_guest (m : GMem) (h : GWF m) (r : Reader) (hk : r.kind ≠ .fd) (count : Nat)
    (hc : count < U) (addr : Nat) :
    (count = 0 → m.readVolatileFrom addr r count = (m, r, .ok 0)) ∧
    (0 < count → ¬ mapped m addr →
      m.readVolatileFrom addr r count = (m, r, .err (.invalidGuestAddress addr))) ∧
    (0 < count → mapped m addr →
      ∃ m' r' res k, m.readVolatileFrom addr r count = (m', r', res) ∧
        k ≤ runLen m addr count ∧ k ≤ r.avail.length ∧
        r'.avail = r.avail.drop k ∧ r'.kind = r.kind ∧
        SameLayout m m' ∧ GWF m' ∧
        (∀ a, flat m' a =
          if addr ≤ a ∧ a < addr + k then (r.avail.take k)[a - addr]? else flat m a) ∧
        (res = .ok k ∨ (res = .err (.ioError IoKind.other) ∧ k < count)) ∧
        res ≠ .err (.ioError IoKind.interrupted) ∧ res ≠ .panic ∧
        (r.script = [] → k = min (runLen m addr count) r.avail.length ∧ res = .ok k ∧
          r'.script = [])) := by
  rw [readVolatileFrom_eq_loop]
  unfold GMem.tryAccess
  refine ⟨fun h0 => by rw [if_pos h0], ?_, ?_⟩
  · intro hpos hun
    rw [if_neg (by omega), loop_unmapped rvcb h.1 count addr r 0 hun, if_pos rfl]
  · intro hpos hmap
    rw [if_neg (by omega)]
    obtain ⟨m', r', res, k, hres, hk1, hk2, hav, hkind, hsl, hg, hfl, _, hr, hpl⟩ :=
      loop_readv hc addr m r addr 0 h hk hpos
    simp only [Nat.sub_zero, Nat.zero_add] at hk1 hr hpl
    have hr' := hr.imp id fun h => h.elim id fun h3 => absurd hmap h3.2.1
    refine ⟨m', r', res, k, hres, hk1, hk2, hav, hkind, hsl, hg, hfl, hr', ?_, ?_, ?_⟩
    · rcases hr' with hr' | ⟨hr', _⟩ <;> rw [hr'] <;> simp [IoKind.other, IoKind.interrupted]
    · rcases hr' with hr' | ⟨hr', _⟩ <;> rw [hr'] <;> simp
    · intro hs
      obtain ⟨e1, e2, e3⟩ := hpl hs
      refine ⟨e1, ?_, e2⟩
      rcases hr' with hr' | ⟨hr', _⟩
      · exact hr'
      · exact absurd hr' e3

/-- bytes outside `[addr, addr + k)` are unchanged, holes stay holes. -/
theorem frame_guest (m : GMem) (h : GWF m) (r : Reader) (hk : r.kind ≠ .fd) (count : Nat)
    (hc : count < U) (addr : Nat) :
    ∃ k, k ≤ count ∧ (m.readVolatileFrom addr r count).2.1.avail = r.avail.drop k ∧
      ∀ a, ¬ (addr ≤ a ∧ a < addr + k) → flat (m.readVolatileFrom addr r count).1 a = flat m a := by
  obtain ⟨h0, h1, h2⟩ := read_from_guest m h r hk count hc addr
  by_cases hz : count = 0
  · rw [h0 hz]; exact ⟨0, Nat.zero_le _, rfl, fun _ _ => rfl⟩
  · by_cases hmap : mapped m addr
    · obtain ⟨m', r', res, k, hres, hk1, _, hav, _, _, _, hfl, _⟩ := h2 (by omega) hmap
      rw [hres]
      refine ⟨k, by have := runLen_le m addr count; omega, hav, ?_⟩
      intro a ha
      rw [hfl a, if_neg ha]
    · rw [h1 (by omega) hmap]; exact ⟨0, Nat.zero_le _, rfl, fun _ _ => rfl⟩

/-- `read_exact_volatile_from(addr, src, count)`:
    the memory / reader effect is that of `read_from_guest`; the result is `Ok(())` iff all
    `count` bytes were moved; otherwise `PartialBuffer { expected: count, completed: k }` when
    the transfer ended early without a stream error (a hole after `k` bytes, end of data, a
    `zero` call), or the stream's own error (with `k < count` bytes already stored). -/
theorem read_exact_from_guest (m : GMem) (h : GWF m) (r : Reader) (hk : r.kind ≠ .fd)
    (count : Nat) (hc : count < U) (addr : Nat) :
    (count = 0 → m.readExactVolatileFrom addr r count = (m, r, .ok ())) ∧
    (0 < count → ¬ mapped m addr →
      m.readExactVolatileFrom addr r count = (m, r, .err (.invalidGuestAddress addr))) ∧
    (0 < count → mapped m addr →
      ∃ m' r' res k, m.readExactVolatileFrom addr r count = (m', r', res) ∧
        k ≤ runLen m addr count ∧ k ≤ r.avail.length ∧
        r'.avail = r.avail.drop k ∧ r'.kind = r.kind ∧
        SameLayout m m' ∧ GWF m' ∧
        (∀ a, flat m' a =
          if addr ≤ a ∧ a < addr + k then (r.avail.take k)[a - addr]? else flat m a) ∧
        (res = .ok () ↔ k = count) ∧
        (res = .ok () ∨ (res = .err (.partialBuffer count k) ∧ k < count) ∨
          (res = .err (.ioError IoKind.other) ∧ k < count)) ∧
        res ≠ .err (.ioError IoKind.interrupted) ∧ res ≠ .panic) := by
  obtain ⟨h0, h1, h2⟩ := read_from_guest m h r hk count hc addr
  unfold GMem.readExactVolatileFrom
  refine ⟨fun hz => by rw [h0 hz]; simp [hz], fun hp hun => by rw [h1 hp hun], ?_⟩
  intro hp hmap
  obtain ⟨m', r', res, k, hres, hk1, hk2, hav, hkind, hsl, hg, hfl, hr, _, _, _⟩ := h2 hp hmap
  rw [hres]
  have hkc : k ≤ count := by have := runLen_le m addr count; omega
  rcases hr with hr | ⟨hr, hlt⟩
  · subst hr
    by_cases hkk : k = count
    · refine ⟨m', r', .ok (), k, by simp [hkk], hk1, hk2, hav, hkind, hsl, hg, hfl,
        by simp [hkk], .inl rfl, by simp, by simp⟩
    · refine ⟨m', r', .err (.partialBuffer count k), k, by simp [hkk], hk1, hk2, hav, hkind, hsl,
        hg, hfl, by simp [hkk], .inr (.inl ⟨rfl, by omega⟩), by simp, by simp⟩
  · subst hr
    exact ⟨m', r', _, k, rfl, hk1, hk2, hav, hkind, hsl, hg, hfl, ⟨fun hh => (by cases hh), fun hh => by omega⟩,
      .inr (.inr ⟨rfl, hlt⟩), by simp [IoKind.other, IoKind.interrupted], by simp⟩

/-! ## 3. writers -/

/-- the callback of `GMem.writeVolatileTo`:
    `region.write_all_volatile_to(caddr, dst, len).map(|()| len)` -/
def wvcb : GMem → Writer → Nat → Nat → Nat → Nat → GMem × Writer × Res Nat :=
  fun m dst _total len start idx =>
    match m[idx]? with
    | none => (m, dst, .panic)
    | some reg =>
      match reg.writeAllVolatileTo start dst len with
      | (w', .ok ()) => (m, w', .ok len)
      | (w', .err e) => (m, w', .err e)
      | (w', .panic) => (m, w', .panic)

theorem writeVolatileTo_eq_loop (m : GMem) (addr : Nat) (dst : Writer) (count : Nat) :
    m.writeVolatileTo addr dst count =
      ((GMem.tryAccess wvcb m dst count addr).2.1, (GMem.tryAccess wvcb m dst count addr).2.2) := by
  unfold GMem.writeVolatileTo wvcb
  rfl

theorem Region.writeAllVolatileTo_eq (r : Region) (hl : r.len < U) (a : Nat) (dst : Writer)
    (count : Nat) :
    r.writeAllVolatileTo a dst count =
      (((rootSlice r).writeAllVolatileTo r.mem a dst count).1,
       ((rootSlice r).writeAllVolatileTo r.mem a dst count).2.mapErr Res.toGuestErr) := by
  unfold Region.writeAllVolatileTo
  rw [asVolatileSlice_eq r hl]
  rfl

/-- every host allocation ends strictly below `2^64` (true of every real mapping: Rust requires
    `ptr + len` not to wrap, the kernel never maps the last page).  `GWF` only has `≤ 2^64`;
    the difference matters for `write_all_volatile` only — see `host_top_counterexample`. -/
def HostFit (m : GMem) : Prop := ∀ r ∈ m, r.mem.base + r.mem.bytes.length < U

instance (m : GMem) : Decidable (HostFit m) := by unfold HostFit; infer_instance

theorem flatRead_add (fl : Nat → Option UInt8) (a k0 k1 : Nat) :
    flatRead fl a (k0 + k1) = flatRead fl a k0 ++ flatRead fl (a + k0) k1 := by
  unfold flatRead
  rw [List.range_add, List.map_append, List.map_map]
  congr 1
  apply List.map_congr_left
  intro i _
  simp [Nat.add_assoc]

theorem Region.writeAllVolatileTo_spec (r : Region) (hr : RegWF r)
    (htop : r.mem.base + r.mem.bytes.length < U) (a len : Nat) (hfit : a + len ≤ r.len)
    (w : Writer) (hk : w.kind = .scripted) :
    ∃ w' res k, r.writeAllVolatileTo a w len = (w', res) ∧ k ≤ len ∧
      w'.buf = w.buf ++ (r.mem.bytes.drop a).take k ∧ w'.kind = w.kind ∧ w'.pos = w.pos ∧
      (res = .ok () ↔ k = len) ∧
      (res = .ok () ∨ res = .err (.ioError IoKind.writeZero) ∨
        res = .err (.ioError IoKind.other)) := by
  obtain ⟨w', res, k, hcall, hk1, hbuf, hkind, hpos, hiff, hres⟩ :=
    C14.writeAllVolatileTo_spec r.mem (rootSlice r) a w len hk (rootSlice_inside r) htop hfit
  rw [show (rootSlice r).addr - r.mem.base = 0 from rootSlice_ofs r, Nat.zero_add] at hbuf
  refine ⟨w', res.mapErr Res.toGuestErr, k, ?_, hk1, hbuf, hkind, hpos, ?_, ?_⟩
  · rw [Region.writeAllVolatileTo_eq r hr.len_lt, hcall]
  · rw [← hiff]
    rcases hres with h | h | h <;> rw [h] <;> simp [Res.mapErr, Res.toGuestErr]
  · rcases hres with h | h | h <;> rw [h] <;> simp [Res.mapErr, Res.toGuestErr]

theorem wvcb_step {m : GMem} (h : GWF m) (hfit : HostFit m) {cur i : Nat} {r : Region}
    (hi : m[i]? = some r) (hin : r.start ≤ cur ∧ cur < r.start + r.len)
    (w : Writer) (hk : w.kind = .scripted) (total len : Nat) (hlen : len ≤ r.len - (cur - r.start)) :
    ∃ w' res k, wvcb m w total len (cur - r.start) i = (m, w', res) ∧ k ≤ len ∧
      w'.buf = w.buf ++ flatRead (flat m) cur k ∧ w'.kind = w.kind ∧ w'.pos = w.pos ∧
      ((k = len ∧ res = .ok len) ∨
       (k < len ∧ (res = .err (.ioError IoKind.writeZero) ∨ res = .err (.ioError IoKind.other)))) := by
  obtain ⟨w', res, k, hcall, hk1, hbuf, hkind, hpos, hiff, hres⟩ :=
    Region.writeAllVolatileTo_spec r (h.regWF hi) (hfit r (List.mem_of_getElem? hi))
      (cur - r.start) len (off_add_le hin hlen) w hk
  rw [region_flatRead h.1 hi hin.1 (add_le_end hin (Nat.le_trans hk1 hlen))] at hbuf
  unfold wvcb
  simp only [hi, hcall]
  have hkl : res ≠ .ok () → k < len := fun hne => Nat.lt_of_le_of_ne hk1 fun hh => hne (hiff.2 hh)
  rcases hres with rfl | rfl | rfl
  · exact ⟨w', _, k, rfl, hk1, hbuf, hkind, hpos, .inl ⟨hiff.1 rfl, rfl⟩⟩
  · exact ⟨w', _, k, rfl, hk1, hbuf, hkind, hpos, .inr ⟨hkl (by simp), .inl rfl⟩⟩
  · exact ⟨w', _, k, rfl, hk1, hbuf, hkind, hpos, .inr ⟨hkl (by simp), .inr rfl⟩⟩

/-- `write_to_guest` from any point `(cur, total)` of the walk -/
theorem loop_writev {m : GMem} (h : GWF m) (hfit : HostFit m) {count : Nat} (hc : count < U)
    (addr : Nat) (w : Writer) (cur total : Nat) (hk : w.kind = .scripted) (ht : total < count) :
    ∃ w' res k, GMem.tryAccessLoop wvcb count addr m w cur total = (m, w', res) ∧
      k ≤ runLen m cur (count - total) ∧
      w'.buf = w.buf ++ flatRead (flat m) cur k ∧ w'.kind = w.kind ∧ w'.pos = w.pos ∧
      ((res = .ok (total + k) ∧ k = runLen m cur (count - total) ∧ (total = 0 → mapped m cur)) ∨
       (k < runLen m cur (count - total) ∧
         (res = .err (.ioError IoKind.writeZero) ∨ res = .err (.ioError IoKind.other))) ∨
       (total = 0 ∧ k = 0 ∧ ¬ mapped m cur ∧ res = .err (.invalidGuestAddress addr))) := by
  refine (loop_run wvcb hc addr m w cur total ht
    (fun k m' w' => m = m' ∧ w'.buf = w.buf ++ flatRead (flat m) cur k ∧ w'.kind = w.kind ∧ w'.pos = w.pos)
    (fun m' w' res k => m = m' ∧
        k ≤ runLen m cur (count - total) ∧
        w'.buf = w.buf ++ flatRead (flat m) cur k ∧ w'.kind = w.kind ∧ w'.pos = w.pos ∧
        ((res = .ok (total + k) ∧ k = runLen m cur (count - total) ∧ (total = 0 → mapped m cur)) ∨
         (k < runLen m cur (count - total) ∧
           (res = .err (.ioError IoKind.writeZero) ∨ res = .err (.ioError IoKind.other))) ∨
         (total = 0 ∧ k = 0 ∧ ¬ mapped m cur ∧ res = .err (.invalidGuestAddress addr))))
    (by rintro _ _ _ ⟨rfl, _⟩; exact ⟨h.1.toWFT, fun _ => Iff.rfl⟩) ?_ ?_
    ⟨rfl, (List.append_nil _).symm, rfl, rfl⟩).elim ?_
  · -- the run is exhausted
    rintro _ w' ⟨rfl, hb, hkd, hp⟩
    refine ⟨rfl, Nat.le_refl _, hb, hkd, hp, ?_⟩
    by_cases hz : runLen m cur (count - total) = 0 ∧ total = 0
    · rw [if_pos hz]
      exact .inr (.inr ⟨hz.2, hz.1, (runLen_eq_zero_iff m cur (Nat.sub_pos_of_lt ht)).1 hz.1, rfl⟩)
    · rw [if_neg hz]
      refine .inl ⟨rfl, rfl, fun h0 => Classical.byContradiction fun hn => hz ⟨runLen_unmapped hn _, h0⟩⟩
  · -- one region chunk, pushed by the all-loop: all of it, or an error after `k0 < len` bytes
    rintro k _ w' i r ⟨rfl, hb, hkd, hp⟩ hi hin _ len hlen hpos hkl
    obtain ⟨w1, res0, k0, hcb, hk0, hbuf0, hkind0, hpos0, hres0⟩ :=
      wvcb_step h hfit hi hin w' (hkd.trans hk) (total + k) len (hlen ▸ Nat.min_le_left _ _)
    have hb1 : w1.buf = w.buf ++ flatRead (flat m) cur (k + k0) := by
      rw [hbuf0, hb, List.append_assoc, flatRead_add]
    rw [hcb]
    rcases hres0 with ⟨rfl, rfl⟩ | ⟨hlt, hr0⟩
    · exact .ok hpos (Nat.le_refl _) ⟨rfl, hb1, hkind0.trans hkd, hpos0.trans hp⟩
    · have hkr : k + k0 < runLen m cur (count - total) := Nat.lt_of_lt_of_le (Nat.add_lt_add_left hlt k) hkl
      rcases hr0 with rfl | rfl <;>
        exact .err ⟨k + k0, rfl, Nat.le_of_lt hkr, hb1, hkind0.trans hkd, hpos0.trans hp, .inr (.inl ⟨hkr, by simp⟩)⟩
  · rintro _ ⟨w', res, k, e, rfl, hfin⟩
    exact ⟨w', res, k, e, hfin⟩

/-- `GuestMemory::write_volatile_to(addr, dst, count)` into a
    harness stream, for EVERY script, on a well-formed memory whose host allocations end below
    `2^64`: the sink receives `flatRead (flat m) addr k` — the bytes of the guest addresses
    `addr .. addr + k`, in order, across region boundaries — appended to what it held;
    `Ok(run)` exactly when the whole run of mapped addresses (capped at `count`) went out;
    otherwise `k < run` bytes went out and the error is `WriteZero` (a `zero` call inside a
    region chunk: the callback uses `write_all_volatile_to`, a short count inside a chunk is
    retried by the all-loop) or the stream's own error.  Guest memory is only read (the model
    function returns no memory).  Never `Interrupted`, never a panic. -/
theorem write_to_guest (m : GMem) (h : GWF m) (hfit : HostFit m) (w : Writer)
    (hk : w.kind = .scripted) (count : Nat) (hc : count < U) (addr : Nat) :
    (count = 0 → m.writeVolatileTo addr w count = (w, .ok 0)) ∧
    (0 < count → ¬ mapped m addr →
      m.writeVolatileTo addr w count = (w, .err (.invalidGuestAddress addr))) ∧
    (0 < count → mapped m addr →
      ∃ w' res k, m.writeVolatileTo addr w count = (w', res) ∧
        k ≤ runLen m addr count ∧
        w'.buf = w.buf ++ flatRead (flat m) addr k ∧ w'.kind = w.kind ∧ w'.pos = w.pos ∧
        ((res = .ok k ∧ k = runLen m addr count) ∨
         (k < runLen m addr count ∧
           (res = .err (.ioError IoKind.writeZero) ∨ res = .err (.ioError IoKind.other)))) ∧
        res ≠ .err (.ioError IoKind.interrupted) ∧ res ≠ .panic) := by
  rw [writeVolatileTo_eq_loop]
  unfold GMem.tryAccess
  refine ⟨fun h0 => by rw [if_pos h0], ?_, ?_⟩
  · intro hpos hun
    rw [if_neg (by omega), loop_unmapped wvcb h.1 count addr w 0 hun, if_pos rfl]
  · intro hpos hmap
    rw [if_neg (by omega)]
    obtain ⟨w', res, k, hres, hk1, hbuf, hkind, hpos', hr⟩ :=
      loop_writev h hfit hc addr w addr 0 hk hpos
    simp only [Nat.sub_zero, Nat.zero_add] at hk1 hr
    rw [hres]
    have hr' := hr.imp (fun h => And.intro h.1 h.2.1) fun h => h.elim id fun h3 => absurd hmap h3.2.2.1
    refine ⟨w', res, k, rfl, hk1, hbuf, hkind, hpos', hr', ?_, ?_⟩ <;>
      rcases hr' with ⟨hr', _⟩ | ⟨_, hr' | hr'⟩ <;> rw [hr'] <;>
      simp [IoKind.other, IoKind.interrupted, IoKind.writeZero]

/-- `write_all_volatile_to(addr, dst, count)`: same sink
    effect; `Ok(())` iff all `count` bytes went out; otherwise
    `PartialBuffer { expected: count, completed: run }` when the run of mapped addresses is
    shorter than `count` (a hole) and the stream took all of it, or `WriteZero` / the stream's
    error with `k < run` bytes out. -/
theorem write_all_to_guest (m : GMem) (h : GWF m) (hfit : HostFit m) (w : Writer)
    (hk : w.kind = .scripted) (count : Nat) (hc : count < U) (addr : Nat) :
    (count = 0 → m.writeAllVolatileTo addr w count = (w, .ok ())) ∧
    (0 < count → ¬ mapped m addr →
      m.writeAllVolatileTo addr w count = (w, .err (.invalidGuestAddress addr))) ∧
    (0 < count → mapped m addr →
      ∃ w' res k, m.writeAllVolatileTo addr w count = (w', res) ∧
        k ≤ runLen m addr count ∧
        w'.buf = w.buf ++ flatRead (flat m) addr k ∧ w'.kind = w.kind ∧ w'.pos = w.pos ∧
        (res = .ok () ↔ k = count) ∧
        (res = .ok () ∨
         (res = .err (.partialBuffer count k) ∧ k = runLen m addr count ∧ k < count) ∨
         (k < runLen m addr count ∧
           (res = .err (.ioError IoKind.writeZero) ∨ res = .err (.ioError IoKind.other)))) ∧
        res ≠ .err (.ioError IoKind.interrupted) ∧ res ≠ .panic) := by
  obtain ⟨h0, h1, h2⟩ := write_to_guest m h hfit w hk count hc addr
  unfold GMem.writeAllVolatileTo
  refine ⟨fun hz => by rw [h0 hz]; simp [hz], fun hp hun => by rw [h1 hp hun], ?_⟩
  intro hp hmap
  obtain ⟨w', res, k, hres, hk1, hbuf, hkind, hpos, hr, _, _⟩ := h2 hp hmap
  rw [hres]
  have hrl := runLen_le m addr count
  rcases hr with ⟨hr, hkr⟩ | ⟨hlt, hr⟩
  · subst hr
    by_cases hkk : k = count
    · exact ⟨w', .ok (), k, by simp [hkk], hk1, hbuf, hkind, hpos, by simp [hkk], .inl rfl,
        by simp, by simp⟩
    · exact ⟨w', .err (.partialBuffer count k), k, by simp [hkk], hk1, hbuf, hkind, hpos,
        by simp [hkk], .inr (.inl ⟨rfl, hkr, by omega⟩), by simp, by simp⟩
  · have hne : k ≠ count := by omega
    rcases hr with hr | hr <;> subst hr
    · exact ⟨w', _, k, rfl, hk1, hbuf, hkind, hpos,
        ⟨fun hh => (by cases hh), fun hh => absurd hh hne⟩, .inr (.inr ⟨hlt, .inl rfl⟩),
        by simp [IoKind.writeZero, IoKind.interrupted], by simp⟩
    · exact ⟨w', _, k, rfl, hk1, hbuf, hkind, hpos,
        ⟨fun hh => (by cases hh), fun hh => absurd hh hne⟩, .inr (.inr ⟨hlt, .inr rfl⟩),
        by simp [IoKind.other, IoKind.interrupted], by simp⟩

/-! ## 4. corollaries for a well-behaved stream (empty script = every call is `full`) -/

/-- with a stream that never misbehaves the transfer moves exactly
    `min(run, available)` bytes — everything up to the first hole, the end of `count`, or the
    end of the data — and returns that number (the last clause of `read_from_guest`, on its own). -/
theorem read_from_guest_plain (m : GMem) (h : GWF m) (r : Reader) (hk : r.kind ≠ .fd)
    (hs : r.script = []) (count : Nat) (hc : count < U) (hpos : 0 < count) (addr : Nat)
    (hmap : mapped m addr) :
    ∃ m' r', m.readVolatileFrom addr r count =
        (m', r', .ok (min (runLen m addr count) r.avail.length)) ∧
      r'.avail = r.avail.drop (min (runLen m addr count) r.avail.length) ∧
      ∀ a, flat m' a =
        if addr ≤ a ∧ a < addr + min (runLen m addr count) r.avail.length
        then r.avail[a - addr]? else flat m a := by
  obtain ⟨m', r', res, k, hres, _, _, hav, _, _, _, hfl, _, _, _, hpl⟩ :=
    (read_from_guest m h r hk count hc addr).2.2 hpos hmap
  obtain ⟨e1, e2, _⟩ := hpl hs
  subst e2
  rw [e1] at hres hav hfl
  refine ⟨m', r', hres, hav, ?_⟩
  intro a
  rw [hfl a]
  split
  · rw [List.getElem?_take, if_pos (by omega)]
  · rfl

/-! ## 5. why `HostFit` is a hypothesis of the writer theorems -/

/-- a (fictitious) region whose host allocation ends exactly at `2^64` -/
def topMem : GMem := [{ start := 0x1000, mem := ⟨U - 4, [1, 2, 3, 4], none⟩, id := 1 }]

theorem topMem_GWF : GWF topMem := C03.gwf_of_untracked topMem (by decide) (by decide)

/-- **model remark** (`GWF` admits `base + len = 2^64`; no real mapping does): there
    `write_all_volatile_to` hands all four bytes to the sink and then fails forming the
    one-past-the-end pointer (`VolatileSlice::offset`: `Overflow` → `InvalidBackendAddress`).
    An error value, not a panic (`C07.no_panic_guest` needs no `HostFit`); the reader forms are
    not affected (`read_from_guest` needs no `HostFit`). -/
theorem host_top_counterexample :
    ¬ HostFit topMem ∧
    topMem.writeVolatileTo 0x1000 { kind := .scripted, buf := [], pos := 0, script := [] } 4 =
      ({ kind := .scripted, buf := [1, 2, 3, 4], pos := 0, script := [] },
       .err .invalidBackendAddress) := by
  constructor
  · decide
  · decide +kernel

/-! ## 6. non-vacuity: the three-region memory of C03

  `C03.exMem`: A = `[0x1000, 0x1004)`, B = `[0x1004, 0x1007)` (touching A), hole
  `[0x1007, 0x100a)`, C = `[0x100a, 0x100c)`.  A transfer of 9 bytes at `0x1002` spans A and B
  and ends in the hole: `runLen = 5`. -/

def exReader (σ : List Beh) : Reader :=
  { kind := .scripted, data := [1, 2, 3, 4, 5, 6, 7, 8, 9], pos := 0, script := σ }

/-- 2 bytes in A, 3 in B -/
def exAfter : GMem :=
  [{ C03.regA with mem := ⟨0x7000, [0xA0, 0xA1, 1, 2], none⟩ },
   { C03.regB with mem := ⟨0x8000, [3, 4, 5], none⟩ }, C03.regC]

/-- `[short 1, eintr, full]`: the first call moves ONE byte — the loop continues at `0x1003`,
    still inside A; the interruption is retried; then A's last byte, then B's three bytes; the
    hole ends the transfer: `Ok(5)`, five bytes consumed, stored in order across the boundary. -/
theorem ex_read :
    C03.exMem.readVolatileFrom 0x1002 (exReader [.short 1, .eintr, .full]) 9 =
      (exAfter, { kind := .scripted, data := [6, 7, 8, 9], pos := 0, script := [] }, .ok 5) := by
  decide +kernel

/-- the exact form reports `PartialBuffer { expected: 9, completed: 5 }` -/
theorem ex_read_exact :
    C03.exMem.readExactVolatileFrom 0x1002 (exReader [.short 1, .eintr, .full]) 9 =
      (exAfter, { kind := .scripted, data := [6, 7, 8, 9], pos := 0, script := [] },
       .err (.partialBuffer 9 5)) := by
  decide +kernel

/-- the flat view afterwards -/
example : (List.range 12).map (fun i => flat exAfter (0x1000 + i)) =
    [some 0xA0, some 0xA1, some 1, some 2, some 3, some 4, some 5, none, none, none,
     some 0xC0, some 0xC1] := by decide

/-- the same through the theorems, for ANY well-behaved 9-byte stream: `Ok(5)` … -/
theorem ex_read_via_theorem (r : Reader) (hk : r.kind ≠ .fd) (hs : r.script = [])
    (hd : r.avail.length = 9) : (C03.exMem.readVolatileFrom 0x1002 r 9).2.2 = .ok 5 := by
  obtain ⟨m', r', e, _⟩ := read_from_guest_plain C03.exMem C03.exMem_GWF r hk hs 9 (by decide)
    (by decide) 0x1002 (by decide)
  rw [e, hd]
  show Res.ok (min (runLen C03.exMem 0x1002 9) 9) = Res.ok 5
  decide

/-- … and, for every script, the exact form never reports more than the run -/
theorem ex_read_exact_via_theorem (σ : List Beh) :
    ∃ k, k ≤ 5 ∧
      ((C03.exMem.readExactVolatileFrom 0x1002 (exReader σ) 9).2.2 = .err (.partialBuffer 9 k) ∨
       (C03.exMem.readExactVolatileFrom 0x1002 (exReader σ) 9).2.2 = .err (.ioError IoKind.other)) := by
  obtain ⟨m', r', res, k, e, hk1, _, _, _, _, _, _, hiff, hres, _⟩ :=
    (read_exact_from_guest C03.exMem C03.exMem_GWF (exReader σ) (by simp [exReader]) 9 (by decide)
      0x1002).2.2 (by decide) (by decide)
  have hrun : runLen C03.exMem 0x1002 9 = 5 := by decide
  rw [hrun] at hk1
  rw [e]
  refine ⟨k, hk1, ?_⟩
  rcases hres with h | ⟨h, _⟩ | ⟨h, _⟩
  · have := hiff.1 h; omega
  · exact .inl h
  · exact .inr h

/-- a stream failure in a LATER iteration: `[short 1, fail]` — the first byte is stored, the
    second call fails, and `try_access` returns the error although one byte was moved -/
theorem ex_read_late_failure :
    C03.exMem.readVolatileFrom 0x1002 (exReader [.short 1, .fail]) 9 =
      ([{ C03.regA with mem := ⟨0x7000, [0xA0, 0xA1, 1, 0xA3], none⟩ }, C03.regB, C03.regC],
       { kind := .scripted, data := [2, 3, 4, 5, 6, 7, 8, 9], pos := 0, script := [] },
       .err (.ioError IoKind.other)) := by
  decide +kernel

def exWriter (σ : List Beh) : Writer := { kind := .scripted, buf := [0xEE], pos := 0, script := σ }

/-- writer, `[short 1, eintr, full]`: inside A's chunk the short count is retried by the
    all-loop; the sink receives A2 A3 B0 B1 B2 in order; `Ok(5)` -/
theorem ex_write :
    C03.exMem.writeVolatileTo 0x1002 (exWriter [.short 1, .eintr, .full]) 9 =
      ({ kind := .scripted, buf := [0xEE, 0xA2, 0xA3, 0xB0, 0xB1, 0xB2], pos := 0, script := [] },
       .ok 5) := by
  decide +kernel

theorem ex_write_all :
    C03.exMem.writeAllVolatileTo 0x1002 (exWriter [.short 1, .eintr, .full]) 9 =
      ({ kind := .scripted, buf := [0xEE, 0xA2, 0xA3, 0xB0, 0xB1, 0xB2], pos := 0, script := [] },
       .err (.partialBuffer 9 5)) := by
  decide +kernel

/-- a `zero` inside a region chunk gives `WriteZero`; the one byte sent stays sent -/
theorem ex_write_zero :
    C03.exMem.writeVolatileTo 0x1002 (exWriter [.short 1, .zero]) 9 =
      ({ kind := .scripted, buf := [0xEE, 0xA2], pos := 0, script := [] },
       .err (.ioError IoKind.writeZero)) := by
  decide +kernel

/-- through the theorem: whatever the script, what reaches the sink is a prefix of
    `A2 A3 B0 B1 B2` -/
theorem ex_write_via_theorem (σ : List Beh) :
    ∃ k, k ≤ 5 ∧ (C03.exMem.writeVolatileTo 0x1002 (exWriter σ) 9).1.buf =
      [0xEE] ++ ([0xA2, 0xA3, 0xB0, 0xB1, 0xB2] : List UInt8).take k := by
  obtain ⟨w', res, k, e, hk1, hbuf, _⟩ :=
    (write_to_guest C03.exMem C03.exMem_GWF (by decide) (exWriter σ) rfl 9 (by decide)
      0x1002).2.2 (by decide) (by decide)
  have hrun : runLen C03.exMem 0x1002 9 = 5 := by decide
  rw [hrun] at hk1
  rw [e]
  refine ⟨k, hk1, ?_⟩
  rw [hbuf]
  show [0xEE] ++ flatRead (flat C03.exMem) 0x1002 k = _
  have : ∀ k, k ≤ 5 → flatRead (flat C03.exMem) 0x1002 k =
      ([0xA2, 0xA3, 0xB0, 0xB1, 0xB2] : List UInt8).take k := by decide
  rw [this k hk1]

#print axioms loop_step_ok
#print axioms loop_step_zero
#print axioms loop_step_err
#print axioms slice_readVolatileFrom_spec
#print axioms Region.readVolatileFrom_eq
#print axioms Region.readVolatileFrom_spec
#print axioms flat_spliced
#print axioms rvcb_step
#print axioms loop_readv
#print axioms read_from_guest
#print axioms frame_guest
#print axioms read_exact_from_guest
#print axioms read_from_guest_plain
#print axioms Region.writeAllVolatileTo_eq
#print axioms Region.writeAllVolatileTo_spec
#print axioms wvcb_step
#print axioms loop_writev
#print axioms write_to_guest
#print axioms write_all_to_guest
#print axioms host_top_counterexample
#print axioms ex_read
#print axioms ex_read_exact
#print axioms ex_read_via_theorem
#print axioms ex_read_exact_via_theorem
#print axioms ex_read_late_failure
#print axioms ex_write
#print axioms ex_write_all
#print axioms ex_write_zero
#print axioms ex_write_via_theorem

end C14g
end VmMem
