/-
  VmMem.Props.C10 — building and editing the map: `GuestRegionMmap::new`,
  `from_arc_regions`, `insert_region`, `remove_region`; the old map persists and every
  map reachable by successful edits is well-formed.

  `WF`, `mapped`, `RegOk` are defined in `VmMem.Lemmas.GuestLemmas`.
  `RegOk r := 0 < r.len ∧ r.start + r.len < U` (most statements spell it out) is what a region built by the safe
  constructor satisfies: `Region.new` checks the end (`new_some_iff`), and a mapping
  of length 0 cannot be created in the crate (mmap refuses it).  The model's
  `Region.new` itself does NOT refuse an empty `mem`; see `zero_len_*` at the end
  of the file for what the model does with such a region (why `0 < r.len` is a hypothesis).
-/
import VmMem.Lemmas.GuestLemmas
namespace VmMem
namespace C10
open GuestLemmas GMem

/-! ### GuestRegionMmap::new -/

/-- accepted exactly when the region ends below `2^64`: an end exactly at `2^64` is refused too -/
theorem Region.new_some_iff (start : Nat) (mem : Mem) (id : Nat) :
    (∃ r, Region.new start mem id = some r) ↔ start + mem.bytes.length < U := by
  unfold Region.new checkedAdd
  by_cases h : start + mem.bytes.length < U <;> simp [h]

theorem Region.new_none_iff (start : Nat) (mem : Mem) (id : Nat) :
    Region.new start mem id = none ↔ U ≤ start + mem.bytes.length := by
  rw [← Nat.not_lt, ← new_some_iff start mem id, ← Option.isSome_iff_exists, Option.not_isSome_iff_eq_none]

theorem Region.new_eq_some {start : Nat} {mem : Mem} {id : Nat} {r : Region}
    (h : Region.new start mem id = some r) :
    r = { start := start, mem := mem, id := id } ∧ r.start + r.len < U := by
  have hlt := (new_some_iff start mem id).1 ⟨r, h⟩
  unfold Region.new checkedAdd at h
  rw [if_pos hlt] at h
  cases h
  exact ⟨rfl, hlt⟩

/-! ### from_arc_regions -/

theorem fromRegions_nil : fromRegions [] = .ok (.error .noMemoryRegion) := rfl

theorem fromRegions_ok_same {rs rs' : GMem} (h : fromRegions rs = .ok (.ok rs')) : rs' = rs := by
  by_cases hne : rs = []
  · subst hne; cases h
  · rw [fromRegions_of_ne_nil hne] at h
    obtain ⟨o, _, ho⟩ := (Res.bind_eq_ok _ _ _).1 h
    cases o with
    | none => cases ho; rfl
    | some e => cases ho

/-- a non-empty list of sound regions is accepted as it is exactly when it is a layout; otherwise the first adjacent
    pair of which the second starts before the first ends is reported, `unsorted` taking precedence (as in the source) -/
theorem fromRegions_cases {rs : GMem} (hr : ∀ r ∈ rs, RegOk r) (hne : rs ≠ []) :
    (fromRegions rs = .ok (.ok rs) ∧ WF rs) ∨
    ∃ pre prev next post, rs = pre ++ prev :: next :: post ∧ WF (pre ++ [prev]) ∧
      next.start < prev.start + prev.len ∧
      fromRegions rs = .ok (.error (if prev.start > next.start then .unsorted else .overlap)) := by
  rw [fromRegions_of_ne_nil hne]
  rcases validatePairs_cases rs hr with ⟨hv, hw⟩ | ⟨pre, prev, next, post, rfl, hw, hlt⟩
  · rw [hv]
    exact Or.inl ⟨rfl, hw⟩
  · rw [validatePairs_offending pre post hw hlt]
    exact Or.inr ⟨pre, prev, next, post, rfl, hw, hlt, rfl⟩

theorem fromRegions_ok_iff (rs : GMem) (hr : ∀ r ∈ rs, 0 < r.len ∧ r.start + r.len < U) :
    fromRegions rs = .ok (.ok rs) ↔ (rs ≠ [] ∧ WF rs) := by
  by_cases hne : rs = []
  · subst hne; simp [fromRegions_nil]
  · rcases fromRegions_cases hr hne with ⟨hf, hw⟩ | ⟨pre, prev, next, post, rfl, _, hlt, hf⟩
    · exact ⟨fun _ => ⟨hne, hw⟩, fun _ => hf⟩
    · rw [hf]
      exact ⟨nofun, fun hw => absurd hw.2 (not_WF_of_offending hlt)⟩

/-- under `hr` the constructor never panics, never reports `invalidGuestRegion`, and
    reports `noMemoryRegion` only for the empty list -/
theorem fromRegions_no_panic (rs : GMem) (hr : ∀ r ∈ rs, 0 < r.len ∧ r.start + r.len < U) :
    ∃ x, fromRegions rs = .ok x ∧ x ≠ .error .invalidGuestRegion ∧
      (x = .error .noMemoryRegion ↔ rs = []) := by
  by_cases hne : rs = []
  · subst hne; exact ⟨_, rfl, by simp, by simp⟩
  · rcases fromRegions_cases hr hne with ⟨hf, _⟩ | ⟨_, prev, next, _, _, _, _, hf⟩
    · exact ⟨_, hf, nofun, by simp [hne]⟩
    · refine ⟨_, hf, ?_, ?_⟩
      · split <;> nofun
      · split <;> simp [hne]

/-- first offending adjacent pair, cause 1: `prev.start > next.start` → `unsorted`
    (checked before the overlap test) -/
theorem fromRegions_unsorted (pre : GMem) (prev next : Region) (post : GMem)
    (hwf : WF (pre ++ [prev])) (h : prev.start > next.start) :
    fromRegions (pre ++ prev :: next :: post) = .ok (.error .unsorted) := by
  rw [fromRegions_of_ne_nil (by simp), validatePairs_offending pre post hwf (Nat.lt_add_right _ h), if_pos h]
  rfl

/-- first offending adjacent pair, cause 2: sorted but `prev.last_addr() ≥ next.start` → `overlap` -/
theorem fromRegions_overlap (pre : GMem) (prev next : Region) (post : GMem)
    (hwf : WF (pre ++ [prev])) (h1 : prev.start ≤ next.start)
    (h2 : prev.start + prev.len - 1 ≥ next.start) :
    fromRegions (pre ++ prev :: next :: post) = .ok (.error .overlap) := by
  have hp : RegOk prev := hwf.mem (by simp)
  rw [fromRegions_of_ne_nil (by simp), validatePairs_offending pre post hwf (by omega), if_neg (Nat.not_lt.2 h1)]
  rfl

/-- every refused non-empty list has a first offending adjacent pair (everything up to
    and including `prev` is well-formed, `next` starts before `prev` ends) -/
theorem exists_first_offending (rs : GMem) (hr : ∀ r ∈ rs, 0 < r.len ∧ r.start + r.len < U)
    (hne : rs ≠ []) (hnwf : ¬ WF rs) :
    ∃ pre prev next post, rs = pre ++ prev :: next :: post ∧ WF (pre ++ [prev]) ∧
      next.start < prev.start + prev.len := by
  rcases validatePairs_cases rs hr with ⟨_, hw⟩ | ⟨pre, prev, next, post, heq, hw, hlt⟩
  · exact absurd hw hnwf
  · exact ⟨pre, prev, next, post, heq, hw, hlt⟩

/-- duplicates (`prev.start = next.start`) are reported as overlap, not as unsorted -/
theorem fromRegions_duplicate_start (prev next : Region) (hp : 0 < prev.len ∧ prev.start + prev.len < U)
    (h : prev.start = next.start) : fromRegions [prev, next] = .ok (.error .overlap) :=
  fromRegions_overlap [] prev next [] (WF_singleton hp) (Nat.le_of_eq h) (by omega)

/-- adjacency (`prev.start + prev.len = next.start`) is accepted -/
theorem fromRegions_adjacent (prev next : Region) (hp : 0 < prev.len ∧ prev.start + prev.len < U)
    (hn : 0 < next.len ∧ next.start + next.len < U) (h : prev.start + prev.len = next.start) :
    fromRegions [prev, next] = .ok (.ok [prev, next]) :=
  have hw := (WF_cons_cons prev next []).2 ⟨hp, Nat.le_of_eq h, WF_singleton hn⟩
  (fromRegions_ok_iff _ hw.1).2 ⟨List.cons_ne_nil _ _, hw⟩

/-! ### insert_region -/

/-- the two ranges do not share an address -/
def disjoint (r x : Region) : Prop :=
  r.start + r.len ≤ x.start ∨ x.start + x.len ≤ r.start

instance (r x : Region) : Decidable (disjoint r x) := by unfold disjoint; infer_instance

theorem disjoint_iff_no_common_addr {r x : Region} (hr : 0 < r.len) (hx : 0 < x.len) :
    disjoint r x ↔
      ¬ ∃ a, (r.start ≤ a ∧ a < r.start + r.len) ∧ (x.start ≤ a ∧ a < x.start + x.len) := by
  unfold disjoint
  constructor
  · rintro h ⟨a, h1, h2⟩; omega
  · intro h
    -- the later of the two starts would be a common address
    rcases Nat.le_total r.start x.start with hle | hle
    · exact .inl (Nat.le_of_not_lt fun hlt => h ⟨x.start, ⟨hle, hlt⟩, Nat.le_refl _, Nat.lt_add_of_pos_right hx⟩)
    · exact .inr (Nat.le_of_not_lt fun hlt => h ⟨r.start, ⟨Nat.le_refl _, Nat.lt_add_of_pos_right hr⟩, hle, hlt⟩)

theorem insertRegion_eval (m : GMem) (h : WF m) (r : Region)
    (hr : 0 < r.len ∧ r.start + r.len < U) :
    m.insertRegion r =
      if ∀ x ∈ m, disjoint r x then .ok (.ok (insertSorted r m)) else .ok (.error .overlap) := by
  have hall : ∀ x ∈ insertSorted r m, RegOk x := fun x hx =>
    (List.forall_mem_cons (p := RegOk)).2 ⟨hr, h.1⟩ x ((insertSorted_perm r m).mem_iff.1 hx)
  have hiff : WF (insertSorted r m) ↔ ∀ x ∈ m, disjoint r x := WF_insertSorted_iff h hr
  unfold insertRegion
  rcases fromRegions_cases hall (List.ne_nil_of_mem ((insertSorted_perm r m).mem_iff.2 List.mem_cons_self)) with
    ⟨hf, hw⟩ | ⟨pre, prev, next, post, heq, _, hlt, hf⟩
  · rw [hf, if_pos (hiff.1 hw)]
  · -- the list is sorted by start, so the offending pair is not reported as unsorted
    have hs := insertSorted_sorted r m ((WF_iff_sorted_disjoint m).1 h).2.1
    rw [heq] at hs hiff
    have := (List.pairwise_cons.1 (hs.sublist (List.sublist_append_right pre _))).1 next List.mem_cons_self
    rw [hf, if_neg (Nat.not_lt.2 this), if_neg fun hd => not_WF_of_offending hlt (hiff.2 hd)]

/-- `insert_region` succeeds iff the new region is disjoint from every old one; then the
    new map is well-formed and holds exactly the old regions plus the new one; otherwise
    the error is `overlap` (never `unsorted`, never a panic). -/
theorem insertRegion_spec (m : GMem) (h : WF m) (r : Region)
    (hr : 0 < r.len ∧ r.start + r.len < U) :
    ((∃ m', m.insertRegion r = .ok (.ok m')) ↔ ∀ x ∈ m, disjoint r x) ∧
    (∀ m', m.insertRegion r = .ok (.ok m') → WF m' ∧ m'.Perm (r :: m)) ∧
    ((¬ ∀ x ∈ m, disjoint r x) → m.insertRegion r = .ok (.error .overlap)) := by
  rw [insertRegion_eval m h r hr]
  by_cases hd : ∀ x ∈ m, disjoint r x
  · rw [if_pos hd]
    refine ⟨⟨fun _ => hd, fun _ => ⟨_, rfl⟩⟩, ?_, fun hn => absurd hd hn⟩
    rintro _ ⟨⟩
    exact ⟨(WF_insertSorted_iff h hr).2 hd, insertSorted_perm r m⟩
  · rw [if_neg hd]
    exact ⟨by simp [hd], nofun, fun _ => rfl⟩

theorem insertRegion_ok {m : GMem} (h : WF m) {r : Region} (hr : 0 < r.len ∧ r.start + r.len < U)
    {m' : GMem} (hm : m.insertRegion r = .ok (.ok m')) :
    WF m' ∧ m'.Perm (r :: m) ∧ ∀ x ∈ m, disjoint r x :=
  have hs := insertRegion_spec m h r hr
  ⟨(hs.2.1 m' hm).1, (hs.2.1 m' hm).2, hs.1.1 ⟨m', hm⟩⟩

/-! ### remove_region -/

/-- `remove_region` succeeds iff some region has exactly this start and size; it returns the
    map without that region, and that region.  The result may be the empty map: unlike the
    constructor, removal does not refuse to produce a map with no regions. -/
theorem removeRegion_spec (m : GMem) (h : WF m) (base size : Nat) (m' : GMem) (r : Region) :
    m.removeRegion base size = .ok (m', r) ↔
      ∃ i, m[i]? = some r ∧ r.start = base ∧ r.len = size ∧ m' = m.eraseIdx i := by
  unfold removeRegion
  constructor
  · intro hrm
    cases hb : m.bsearch base with
    | error x => rw [hb] at hrm; cases hrm
    | ok i =>
      rw [hb] at hrm
      obtain ⟨s, hs, hss⟩ := bsearch_ok hb
      simp only [hs] at hrm
      split at hrm
      · rename_i hlen
        cases hrm
        exact ⟨i, hs, hss, hlen, rfl⟩
      · cases hrm
  · rintro ⟨i, hi, hs, hl, rfl⟩
    have hb : m.bsearch base = .ok i := (TopLemmas.bsearch_ok_iff h.toWFT base i).2 (by simp [hi, hs])
    rw [hb]
    simp [hi, hl]

theorem perm_cons_eraseIdx {α : Type} {l : List α} {i : Nat} {r : α} (h : l[i]? = some r) :
    l.Perm (r :: l.eraseIdx i) := by
  obtain ⟨hi, rfl⟩ := List.getElem?_eq_some_iff.1 h
  rw [List.eraseIdx_eq_take_drop_succ]
  conv => lhs; rw [← List.take_append_drop i l, List.drop_eq_getElem_cons hi]
  exact List.perm_middle

theorem removeRegion_ok {m : GMem} (h : WF m) {base size : Nat} {m' : GMem} {r : Region}
    (hrm : m.removeRegion base size = .ok (m', r)) :
    WF m' ∧ m.Perm (r :: m') ∧ r ∈ m ∧ r ∉ m' := by
  obtain ⟨i, hi, hs, hl, rfl⟩ := (removeRegion_spec m h base size m' r).1 hrm
  refine ⟨h.sublist (List.eraseIdx_sublist m i), perm_cons_eraseIdx hi, List.mem_of_getElem? hi, ?_⟩
  intro hmem
  obtain ⟨j, hji, hj⟩ := List.mem_eraseIdx_iff_getElem?.1 hmem
  have hrl := h.getElem? hi
  exact hji (GuestLemmas.region_unique (a := r.start) h.toWFT hj hi (by omega) (by omega))

theorem removeRegion_cases (m : GMem) (base size : Nat) :
    (∃ m' r, m.removeRegion base size = .ok (m', r)) ∨
    m.removeRegion base size = .error .invalidGuestRegion := by
  unfold removeRegion
  cases hb : m.bsearch base with
  | error x => exact Or.inr rfl
  | ok i =>
    cases hi : m[i]? with
    | none => simp [hi]
    | some s =>
      simp only [hi]
      by_cases hl : s.len = size
      · rw [if_pos hl]; exact Or.inl ⟨_, _, rfl⟩
      · rw [if_neg hl]; exact Or.inr rfl

/-- the only failure is `invalidGuestRegion`, exactly when no region matches start and size -/
theorem removeRegion_err (m : GMem) (h : WF m) (base size : Nat) :
    m.removeRegion base size = .error .invalidGuestRegion ↔
      ¬ ∃ (i : Nat) (r : Region), m[i]? = some r ∧ r.start = base ∧ r.len = size := by
  constructor
  · rintro he ⟨i, r, hi, hs, hl⟩
    cases he.symm.trans ((removeRegion_spec m h base size _ r).2 ⟨i, hi, hs, hl, rfl⟩)
  · intro hn
    rcases removeRegion_cases m base size with ⟨m', r, hok⟩ | he
    · obtain ⟨i, hi, hs, hl, _⟩ := (removeRegion_spec m h base size m' r).1 hok
      exact absurd ⟨i, r, hi, hs, hl⟩ hn
    · exact he

/-! ### persistence: the functions are pure, the old map `m` is untouched by
    construction; every old region is reached unchanged through the new map -/

theorem insert_keeps_old {m : GMem} (h : WF m) {r : Region} (hr : 0 < r.len ∧ r.start + r.len < U)
    {m' : GMem} (hm : m.insertRegion r = .ok (.ok m')) :
    (∀ x ∈ m, x ∈ m') ∧ r ∈ m' ∧ (∀ x ∈ m', x = r ∨ x ∈ m) ∧
    (∀ x ∈ m, ∃ y ∈ m', y.start = x.start ∧ y.len = x.len ∧ y.id = x.id ∧ y.mem = x.mem) := by
  have hp := (insertRegion_ok h hr hm).2.1
  have h1 : ∀ x ∈ m, x ∈ m' := fun x hx => hp.mem_iff.2 (List.mem_cons_of_mem _ hx)
  exact ⟨h1, hp.mem_iff.2 List.mem_cons_self, fun x hx => List.mem_cons.1 (hp.mem_iff.1 hx),
    fun x hx => ⟨x, h1 x hx, rfl, rfl, rfl, rfl⟩⟩

theorem remove_keeps_old {m : GMem} (h : WF m) {base size : Nat} {m' : GMem} {r : Region}
    (hrm : m.removeRegion base size = .ok (m', r)) :
    (∀ x ∈ m, x ≠ r → x ∈ m') ∧ (∀ x ∈ m', x ∈ m ∧ x ≠ r) ∧
    (∀ x ∈ m, x ≠ r → ∃ y ∈ m', y.start = x.start ∧ y.len = x.len ∧ y.id = x.id ∧ y.mem = x.mem) := by
  obtain ⟨_, hp, _, hnot⟩ := removeRegion_ok h hrm
  have h1 : ∀ x ∈ m, x ≠ r → x ∈ m' := fun x hx hne => (List.mem_cons.1 (hp.mem_iff.1 hx)).resolve_left hne
  exact ⟨h1, fun x hx => ⟨hp.mem_iff.2 (List.mem_cons_of_mem _ hx), fun e => hnot (e ▸ hx)⟩,
    fun x hx hne => ⟨x, h1 x hx hne, rfl, rfl, rfl, rfl⟩⟩

/-- index form: positions below the removed one are unchanged, the others shift down by one -/
theorem remove_index {m : GMem} (h : WF m) {base size : Nat} {m' : GMem} {r : Region}
    (hrm : m.removeRegion base size = .ok (m', r)) :
    ∃ i, m[i]? = some r ∧ (∀ j, j < i → m'[j]? = m[j]?) ∧ (∀ j, i ≤ j → m'[j]? = m[j + 1]?) := by
  obtain ⟨i, hi, _, _, rfl⟩ := (removeRegion_spec m h base size m' r).1 hrm
  exact ⟨i, hi, fun j hj => List.getElem?_eraseIdx_of_lt hj, fun j hj => List.getElem?_eraseIdx_of_ge hj⟩

/-! ### history: every map reachable by edits is well-formed -/

inductive Req where
  | insert (r : Region)
  | remove (base size : Nat)

/-- one request: a successful edit yields the new map, a refused one leaves the map as it was -/
def step (m : GMem) : Req → GMem
  | .insert r => match m.insertRegion r with
    | .ok (.ok m') => m'
    | _ => m
  | .remove base size => match m.removeRegion base size with
    | .ok (m', _) => m'
    | .error _ => m

/-- all intermediate maps, the initial one included -/
def trace (m : GMem) : List Req → List GMem
  | [] => [m]
  | q :: qs => m :: trace (step m q) qs

theorem step_WF {m : GMem} (h : WF m) (q : Req)
    (hq : ∀ r, q = .insert r → 0 < r.len ∧ r.start + r.len < U) : WF (step m q) := by
  cases q with
  | insert r =>
    simp only [step]
    split
    · exact (insertRegion_ok h (hq r rfl) ‹_›).1
    · exact h
  | remove base size =>
    simp only [step]
    split
    · exact (removeRegion_ok h ‹_›).1
    · exact h

theorem history (m : GMem) (h : WF m) (reqs : List Req)
    (hq : ∀ r, Req.insert r ∈ reqs → 0 < r.len ∧ r.start + r.len < U) :
    ∀ m' ∈ trace m reqs, WF m' := by
  induction reqs generalizing m with
  | nil => exact List.forall_mem_singleton.2 h
  | cons q qs ih =>
    exact List.forall_mem_cons.2 ⟨h, ih (step m q) (step_WF h q fun r hr => hq r (hr ▸ List.mem_cons_self))
      fun r hr => hq r (List.mem_cons_of_mem _ hr)⟩

theorem history_from_empty (reqs : List Req)
    (hq : ∀ r, Req.insert r ∈ reqs → 0 < r.len ∧ r.start + r.len < U) :
    ∀ m' ∈ trace [] reqs, WF m' := history [] WF_nil reqs hq

/-! ### non-vacuity -/

deriving instance DecidableEq for Except

def mem (base n : Nat) : Mem := { base := base, bytes := List.replicate n 0, bm := none }
def reg (start n id : Nat) : Region := { start := start, mem := mem (0x1000 * id) n, id := id }

/-- `[0,5)`, `[10,13)` -/
def ex : GMem := [reg 0 5 1, reg 10 3 2]

theorem ex_WF : WF ex := by decide

-- the constructor refuses an end beyond the address space, accepts `end = U - 1`
example : Region.new 0xFFFF_FFFF_FFFF_FFF0 (mem 0 16) 7 = none := by decide
example : (Region.new 0xFFFF_FFFF_FFFF_FFF0 (mem 0 15) 7).isSome = true := by decide
-- insert into a hole
example : ex.insertRegion (reg 5 5 3) = .ok (.ok [reg 0 5 1, reg 5 5 3, reg 10 3 2]) := by decide
-- 1-byte overlap with the next / the previous region
example : ex.insertRegion (reg 5 6 3) = .ok (.error .overlap) := by decide
example : ex.insertRegion (reg 4 2 3) = .ok (.error .overlap) := by decide
-- duplicate start
example : ex.insertRegion (reg 10 1 3) = .ok (.error .overlap) := by decide
example : fromRegions [reg 10 1 3, reg 10 3 2] = .ok (.error .overlap) := by decide
-- adjacency on both sides
example : ex.insertRegion (reg 13 2 3) = .ok (.ok [reg 0 5 1, reg 10 3 2, reg 13 2 3]) := by decide
-- unsorted input to the constructor
example : fromRegions [reg 10 3 2, reg 0 5 1] = .ok (.error .unsorted) := by decide
example : fromRegions [] = .ok (.error .noMemoryRegion) := by decide
-- removal: wrong size refused, wrong base refused, exact match removed
example : ex.removeRegion 10 2 = .error .invalidGuestRegion := by decide
example : ex.removeRegion 9 3 = .error .invalidGuestRegion := by decide
example : ex.removeRegion 10 3 = .ok ([reg 0 5 1], reg 10 3 2) := by decide
-- removal of the last region yields the empty map (legal result of removal)
example : GMem.removeRegion [reg 0 5 1] 0 5 = .ok ([], reg 0 5 1) := by decide
example : trace ex [.insert (reg 5 5 3), .insert (reg 4 2 4), .remove 0 5, .remove 0 5] =
    [ex, [reg 0 5 1, reg 5 5 3, reg 10 3 2], [reg 0 5 1, reg 5 5 3, reg 10 3 2],
     [reg 5 5 3, reg 10 3 2], [reg 5 5 3, reg 10 3 2]] := by decide

/-! ### why `0 < r.len` is a hypothesis: the model's constructors accept an empty region
    (the crate cannot build one: a mapping of length 0 is refused by mmap) -/

example : (Region.new 5 (mem 0 0) 9).isSome = true := by decide
/-- accepted as the only / last region … -/
theorem zero_len_last_accepted : fromRegions [reg 0 5 1, reg 7 0 9] = .ok (.ok [reg 0 5 1, reg 7 0 9]) := by
  decide
/-- … then `find_region` resolves its start although no byte is mapped there … -/
theorem zero_len_found : GMem.findRegion [reg 0 5 1, reg 7 0 9] 7 = .ok (some 1) := by decide
/-- … and anywhere else `last_addr` of it is `len - 1` on `0`: a panic -/
theorem zero_len_panics : fromRegions [reg 7 0 9, reg 8 1 1] = .panic := by decide

end C10
end VmMem

#print axioms VmMem.C10.Region.new_some_iff
#print axioms VmMem.C10.Region.new_none_iff
#print axioms VmMem.C10.Region.new_eq_some
#print axioms VmMem.C10.fromRegions_nil
#print axioms VmMem.C10.fromRegions_ok_same
#print axioms VmMem.C10.fromRegions_ok_iff
#print axioms VmMem.C10.fromRegions_no_panic
#print axioms VmMem.C10.fromRegions_unsorted
#print axioms VmMem.C10.fromRegions_overlap
#print axioms VmMem.C10.exists_first_offending
#print axioms VmMem.C10.fromRegions_duplicate_start
#print axioms VmMem.C10.fromRegions_adjacent
#print axioms VmMem.C10.disjoint_iff_no_common_addr
#print axioms VmMem.C10.insertRegion_eval
#print axioms VmMem.C10.insertRegion_spec
#print axioms VmMem.C10.insertRegion_ok
#print axioms VmMem.C10.removeRegion_spec
#print axioms VmMem.C10.removeRegion_ok
#print axioms VmMem.C10.removeRegion_err
#print axioms VmMem.C10.removeRegion_cases
#print axioms VmMem.C10.insert_keeps_old
#print axioms VmMem.C10.remove_keeps_old
#print axioms VmMem.C10.remove_index
#print axioms VmMem.C10.step_WF
#print axioms VmMem.C10.history
#print axioms VmMem.C10.history_from_empty
#print axioms VmMem.C10.ex_WF
#print axioms VmMem.C10.zero_len_last_accepted
#print axioms VmMem.C10.zero_len_found
#print axioms VmMem.C10.zero_len_panics
