/-
  VmMem.Props.C15x — C15 (Xen half, system-call level) and C12 (Xen half): `MmapRegion::from_range` either fails
  and leaves the kernel-side state exactly as it found it — for every request and every pattern of
  failing system calls — or yields a region that reports the request and owns exactly the
  resources it acquired, which `Drop` gives back, all of them, once.
  Read off `Lemmas/XenBuildLemmas`: `fromRangeWith_eq` and the `Gain` each layer reports.
  Also `fds_overlap` (`Construct.fdsOverlap`, not Xen-specific).
-/
import VmMem.Lemmas.XenBuildLemmas
namespace VmMem
namespace C15x
open Construct XenBuild

/-- same kernel-side resources (the allocation cursor `next` is not a resource) -/
def SameRes (a b : Kernel) : Prop := a.maps = b.maps ∧ a.grants = b.grants
instance (a b : Kernel) : Decidable (SameRes a b) := by unfold SameRes; infer_instance

theorem sameRes_of_gain {k k' : Kernel} (h : Gain k k' [] []) : SameRes k' k := ⟨h.maps, h.grants⟩

/-! ### `mmap_range` -/
theorem mmapRange_none (k : Kernel) (addr size page : Nat) (sc : Script) (k' : Kernel) (sc' : Script)
    (h : mmapRange k addr size page sc = (none, k', sc')) : SameRes k' k :=
  sameRes_of_gain (mmapRange_spec h)

theorem mmapRange_some (k : Kernel) (addr size page : Nat) (sc : Script) (a ms idx : Nat) (k' : Kernel) (sc' : Script)
    (h : mmapRange k addr size page sc = (some (a, ms, idx), k', sc')) :
    ms = (pages size page).2 ∧ idx = grantIndex addr page ∧
    k'.maps = (a, ms) :: k.maps ∧ k'.grants = (idx, (pages size page).1) :: k.grants :=
  have ⟨h1, h2, g⟩ := mmapRange_spec h
  ⟨h1, h2, g.maps, g.grants⟩

/-- D7 as it stood: a failing `mmap` after a successful grant-map ioctl left the grant mapping behind -/
theorem mmapRangeBeforeFix_leaks :
    ∃ k addr size page sc k' sc', mmapRangeBeforeFix k addr size page sc = (none, k', sc') ∧ ¬ SameRes k' k :=
  ⟨{}, 0x5000, 0x2000, 4096, [true, false], _, _, rfl, by decide⟩

/-! ### `MmapXen::new` / `from_range`: failure leaves nothing behind -/
theorem newMap_error_same (r : Req) (f : Flags) (page : Nat) (k : Kernel) (sc : Script)
    (e : BErr) (k' : Kernel) (sc' : Script)
    (h : newMapWith mmapRange r f page k sc = (.error e, k', sc')) : SameRes k' k :=
  sameRes_of_gain (newMap_spec h)

/-- **C15, Xen build: a failed construction leaves nothing mapped behind** — no `mmap` range and no
    gntdev grant mapping — for every request and every pattern of failing system calls. -/
theorem fromRange_error_leaves_nothing (r : Req) (page : Nat) (k : Kernel) (sc : Script)
    (e : BErr) (k' : Kernel) (sc' : Script)
    (h : fromRange r page k sc = (.error e, k', sc')) : k'.maps = k.maps ∧ k'.grants = k.grants :=
  sameRes_of_gain (fromRange_spec h)

/-- the record of D7: before the repair the statement above was false -/
theorem fromRangeBeforeFix_leaks :
    ∃ r page k sc e k' sc', fromRangeBeforeFix r page k sc = (.error e, k', sc') ∧ k'.grants ≠ k.grants :=
  ⟨{ size := 0x2000, file := some { fileLen := 0x10000, start := 0 }, prot := none, flags := none,
     xenFlags := 0x2, xenData := 7, guestBase := 0x5000 }, 4096, {}, [true, false], .mmapFailed, _, _, rfl, by decide⟩

/-! ### which requests fail before any system call: agreement with `Construct.xenValidate` -/

/-- every request `Construct.xenValidate` refuses (C15's acceptance theorems) is refused by `from_range`
    with that very error, before any system call: kernel state and reply script untouched -/
theorem fromRange_validate_error (mr) (r : Req) (page : Nat) (k : Kernel) (sc : Script) (e : BErr)
    (h : xenValidate r.toXenReq = .error e) : fromRangeWith mr r page k sc = (.error e, k, sc) := by
  rw [fromRangeWith_eq, h]

theorem core_validate_error (mr) (r : Req) (page : Nat) (k : Kernel) (sc : Script) (e : BErr) (prot flags : Nat)
    (h : xenValidate.xenRest r.toXenReq = .error e) :
    fromRangeCore mr r page k sc prot flags = (.error e, k, sc) := by
  rw [fromRangeCore_eq, h]

/-! ### success: the region owns exactly what was acquired, and `Drop` gives all of it back -/
theorem erase_head {α} [BEq α] [LawfulBEq α] (a : α) (l : List α) : (a :: l).erase a = l := by simp

theorem newMap_ok_drop (r : Req) (f : Flags) (page : Nat) (k : Kernel) (sc : Script)
    (m : XMap) (k' : Kernel) (sc' : Script)
    (h : newMapWith mmapRange r f page k sc = (.ok m, k', sc')) : SameRes (dropMap k' m page) k :=
  sameRes_of_gain (newMap_spec h).dropMap

/-- what a successful `from_range` returns -/
theorem fromRange_ok_inv (r : Req) (page : Nat) (k : Kernel) (sc : Script) (reg : Region) (k' : Kernel) (sc' : Script)
    (h : fromRange r page k sc = (.ok reg, k', sc')) :
    ∃ f, fromBits r.xenFlags = some f ∧ isValid f = true ∧ effFlags r = some reg.flags ∧
      newMapWith mmapRange r f page k sc = (.ok reg.map, k', sc') ∧
      reg.size = r.size ∧ reg.prot = r.prot.getD PROT_RW ∧ reg.fileStart = r.file.map (·.start) ∧
      reg.xenFlags = f.toNat ∧ reg.xenData = r.xenData := by
  unfold fromRange at h
  rw [fromRangeWith_eq] at h
  split at h
  · cases h
  · rename_i hv
    obtain ⟨hfl, ha, _⟩ := xenValidate_ok hv
    obtain ⟨hb, hval⟩ := (xenFlagsAccepted_iff _).1 ha
    split at h
    · cases h
    · rename_i e1
      cases h
      exact ⟨_, hb, hval, hfl, e1, rfl, rfl, rfl, rfl, rfl⟩

/-- **C15 (Xen): a region that is built reports exactly the request** (size, protection — defaulted to
    read/write —, flags — defaulted to `MAP_NORESERVE | MAP_SHARED` —, file offset, Xen flag word and data) -/
theorem fromRange_ok_reports (r : Req) (page : Nat) (k : Kernel) (sc : Script) (reg : Region) (k' : Kernel) (sc' : Script)
    (h : fromRange r page k sc = (.ok reg, k', sc')) :
    reg.size = r.size ∧ reg.prot = r.prot.getD PROT_RW ∧ effFlags r = some reg.flags ∧
    reg.fileStart = r.file.map (·.start) ∧ reg.xenFlags = r.xenFlags.toNat ∧ reg.xenData = r.xenData ∧
    xenFlagsAccepted r.xenFlags = true := by
  obtain ⟨f, hb, hv, hfl, _, h1, h2, h3, h4, h5⟩ := fromRange_ok_inv r page k sc reg k' sc' h
  obtain rfl := ((fromBits_eq_some_iff _ _).1 hb).2
  exact ⟨h1, h2, hfl, h3, h4, h5, (xenFlagsAccepted_iff _).2 ⟨hb, hv⟩⟩

/-- **C12 (Xen): build then drop gives back every kernel-side resource** — each `mmap` range is
    unmapped with exactly its `(addr, size)`, each grant mapping with exactly its `(index, count)` -/
theorem fromRange_then_drop_restores (r : Req) (page : Nat) (k : Kernel) (sc : Script) (reg : Region) (k' : Kernel) (sc' : Script)
    (h : fromRange r page k sc = (.ok reg, k', sc')) :
    (dropMap k' reg.map page).maps = k.maps ∧ (dropMap k' reg.map page).grants = k.grants :=
  sameRes_of_gain (fromRange_spec h).dropMap

theorem fromRange_ondemand_no_calls (r : Req) (page : Nat) (k : Kernel) (sc : Script) (reg : Region) (k' : Kernel) (sc' : Script)
    (h : fromRange r page k sc = (.ok reg, k', sc')) (hx : r.xenFlags = 0xa) :
    reg.map = .grantOnDemand ∧ k' = k ∧ sc' = sc := by
  obtain ⟨f, hb, _, _, hn, _⟩ := fromRange_ok_inv r page k sc reg k' sc' h
  obtain rfl : f = 0xa := ((fromBits_eq_some_iff _ _).1 hb).2.trans hx
  unfold newMapWith at hn
  have h1 : isForeign (0xa : Flags) = false := by decide
  have h2 : isGrant (0xa : Flags) = true := by decide
  have h3 : mmapInAdvance (0xa : Flags) = false := by decide
  simp only [h1, h2, h3, Bool.false_eq_true, if_false, if_true] at hn
  split at hn
  · cases hn
  · simp only [Prod.mk.injEq, Except.ok.injEq] at hn
    exact ⟨hn.1.symm, hn.2.1.symm, hn.2.2.symm⟩

/-- when every system call succeeds, every request `xenValidate` accepts is built -/
theorem fromRange_all_succeed_ok (r : Req) (page : Nat) (k : Kernel)
    (h : xenValidate r.toXenReq = .ok ()) : ∃ reg k', fromRange r page k [] = (.ok reg, k', []) := by
  obtain ⟨m, k', e⟩ := newMap_empty_script r r.xenFlags page k (xenValidate_ok h).2.2
  unfold fromRange
  rw [fromRangeWith_eq, h]
  simp only [e]
  exact ⟨_, _, rfl⟩

/-- **a guest region is refused when its end would exceed the address space, and nothing stays mapped** —
    also when the mapping had already been built (any kind of Xen mapping) -/
theorem guestRegionFromRange_error_leaves_nothing (r : Req) (guestBase page : Nat) (k : Kernel) (sc : Script)
    (e : BErr) (k' : Kernel) (sc' : Script)
    (h : guestRegionFromRange r guestBase page k sc = (.error e, k', sc')) :
    k'.maps = k.maps ∧ k'.grants = k.grants := by
  unfold guestRegionFromRange at h
  split at h
  · rename_i hf
    cases h
    exact fromRange_error_leaves_nothing _ _ _ _ _ _ _ hf
  · rename_i hf
    split at h <;> cases h
    exact fromRange_then_drop_restores _ _ _ _ _ _ _ hf

theorem guestRegionFromRange_ok_iff (r : Req) (guestBase page : Nat) (k : Kernel) (sc : Script) (reg : Region) (k' : Kernel) (sc' : Script) :
    guestRegionFromRange r guestBase page k sc = (.ok reg, k', sc') ↔
      fromRange r page k sc = (.ok reg, k', sc') ∧ guestBase + r.size < U := by
  unfold guestRegionFromRange
  split
  · rename_i hf
    simp [hf]
  · rename_i reg1 k1 sc1 hf
    rw [hf, ← (fromRange_ok_reports r page k sc reg1 k1 sc1 hf).1, ← Nat.not_le, ← checkedAdd_eq_none_iff]
    split <;> simp [*]

/-! ### "exactly once": nothing is ever released that is not held (`faults` stays where it was) -/
theorem mmapRange_faults (k : Kernel) (addr size page : Nat) (sc : Script) :
    (mmapRange k addr size page sc).2.1.faults = k.faults := by
  have := mmapRange_spec (rfl : mmapRange k addr size page sc = (_, _, _))
  split at this
  · exact this.faults
  · exact this.2.2.faults

theorem newMap_faults (r : Req) (f : Flags) (page : Nat) (k : Kernel) (sc : Script) :
    (newMapWith mmapRange r f page k sc).2.1.faults = k.faults := by
  have := newMap_spec (rfl : newMapWith mmapRange r f page k sc = (_, _, _))
  split at this <;> exact this.faults

/-- **construction never releases anything it does not hold** — on success, on a refused request, and on every
    failure path after a partial acquisition (each range and each grant mapping it gives back is one it holds) -/
theorem fromRange_no_fault (r : Req) (page : Nat) (k : Kernel) (sc : Script) :
    (fromRange r page k sc).2.1.faults = k.faults := by
  have := fromRange_spec (rfl : fromRange r page k sc = (_, _, _))
  split at this <;> exact this.faults

/-- dropping a region built by `from_range` releases each of its resources once: nothing it releases is missing -/
theorem fromRange_then_drop_no_fault (r : Req) (page : Nat) (k : Kernel) (sc : Script) (reg : Region) (k' : Kernel) (sc' : Script)
    (h : fromRange r page k sc = (.ok reg, k', sc')) : (dropMap k' reg.map page).faults = k.faults :=
  (fromRange_spec h).dropMap.faults

/-! ### `fds_overlap` (a convenience check on two built regions) -/
/-- for regions built through the checked constructors (`start + len` fits, `len > 0`) on one descriptor,
    `fds_overlap` is exactly "the two file ranges intersect", and it does not overflow -/
theorem fdsOverlap_spec (s1 l1 s2 l2 : Nat) (h1 : s1 + l1 < U) (h2 : s2 + l2 < U) (p1 : 0 < l1) (p2 : 0 < l2) :
    fdsOverlap true (some (s1, l1)) (some (s2, l2)) = .ok (decide (max s1 s2 < min (s1 + l1) (s2 + l2))) := by
  unfold fdsOverlap addP
  by_cases h : s1 < s2
  · simp only [h, if_true, h1, Res.bind_ok, Res.pure_eq]
    congr 1
    rw [decide_eq_decide, Nat.max_eq_right (Nat.le_of_lt h), Nat.lt_min]
    exact ⟨fun h' => ⟨h', Nat.lt_add_of_pos_right p2⟩, And.left⟩
  · simp only [h, if_false, if_true, h2, Res.bind_ok, Res.pure_eq]
    congr 1
    rw [decide_eq_decide, Nat.max_eq_left (Nat.le_of_not_lt h), Nat.lt_min]
    exact ⟨fun h' => ⟨Nat.lt_add_of_pos_right p1, h'⟩, And.right⟩

theorem fdsOverlap_other_fd (a b : Option (Nat × Nat)) : fdsOverlap false a b = .ok false := by
  unfold fdsOverlap; cases a <;> cases b <;> simp

theorem fdsOverlap_no_file (sameFd : Bool) (b : Option (Nat × Nat)) :
    fdsOverlap sameFd none b = .ok false ∧ fdsOverlap sameFd b none = .ok false := by
  unfold fdsOverlap; cases b <;> simp

/-! ### non-vacuity: a grant region built; the D7 path (`[true, false]`: grant map, then `mmap` fails); a failing
    foreign ioctl; on-demand; a word with an unknown bit -/
def grantReq : Req := { size := 0x2000, file := some { fileLen := 0x10000, start := 0 }, prot := none, flags := none,
                        xenFlags := 0x2, xenData := 7, guestBase := 0x5000 }
def okOf {α} : Except BErr α → Option α | .ok a => some a | .error _ => none
def errOf {α} : Except BErr α → Option BErr | .ok _ => none | .error e => some e
example : okOf (fromRange grantReq 4096 ({} : Kernel) []).1 =
    some (Region.mk 0x2000 3 0x4001 (some 0) 2 7 (.grantAdvance 0x10000 0x2000 0x5000 0x2000)) := by decide
example : (fromRange grantReq 4096 {} []).2.1.grants = [(0x5000, 2)] := by decide
example : (fromRange grantReq 4096 {} [true, false]).2.1.grants = [] := by decide
example : errOf (fromRange grantReq 4096 {} [false]).1 = some .mmapFailed := by decide
example : (fromRange { grantReq with xenFlags := 0x1 } 4096 {} [true, false]).2.1.maps = [] := by decide
example : errOf (fromRange { grantReq with xenFlags := 0x1 } 4096 {} [true, false]).1 = some .mmapFailed := by decide
example : (fromRange { grantReq with xenFlags := 0xa } 4096 {} []).2.1 = {} := by decide
example : errOf (fromRange { grantReq with xenFlags := 0x6 } 4096 {} []).1 = some (.mmapFlags 6) := by decide

end C15x
end VmMem

#print axioms VmMem.C15x.mmapRange_none
#print axioms VmMem.C15x.mmapRange_some
#print axioms VmMem.C15x.mmapRangeBeforeFix_leaks
#print axioms VmMem.C15x.newMap_error_same
#print axioms VmMem.C15x.fromRange_error_leaves_nothing
#print axioms VmMem.C15x.fromRangeBeforeFix_leaks
#print axioms VmMem.C15x.core_validate_error
#print axioms VmMem.C15x.fromRange_validate_error
#print axioms VmMem.C15x.newMap_ok_drop
#print axioms VmMem.C15x.fromRange_ok_inv
#print axioms VmMem.C15x.fromRange_ok_reports
#print axioms VmMem.C15x.fromRange_then_drop_restores
#print axioms VmMem.C15x.fromRange_ondemand_no_calls
#print axioms VmMem.C15x.fromRange_all_succeed_ok
#print axioms VmMem.C15x.guestRegionFromRange_error_leaves_nothing
#print axioms VmMem.C15x.guestRegionFromRange_ok_iff
#print axioms VmMem.C15x.fdsOverlap_spec
#print axioms VmMem.C15x.fdsOverlap_other_fd
#print axioms VmMem.C15x.fdsOverlap_no_file
#print axioms VmMem.C15x.mmapRange_faults
#print axioms VmMem.C15x.newMap_faults
#print axioms VmMem.C15x.fromRange_no_fault
#print axioms VmMem.C15x.fromRange_then_drop_no_fault
