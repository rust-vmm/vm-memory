/-
  VmMem.Props.C17x — C17 (on-demand half, system-call level): the temporary mapping of an access is released when the
  access completes — and also when obtaining it fails half-way — so none remains; a zero-length access
  asks the device for nothing (C18).
-/
import VmMem.Model.XenAccess
import VmMem.Lemmas.XenBuildLemmas
import VmMem.Props.C17
namespace VmMem
namespace C17x
open XenBuild XenAccess

theorem access_gain (k : Kernel) (guestBase offset len page : Nat) (sc : Script) :
    Gain k (access k guestBase offset len page sc).2.1 [] [] := by
  unfold access
  split
  · exact Gain.refl k
  · simp only
    split
    · rename_i e
      exact mmapRange_spec e
    · rename_i e
      exact (mmapRange_spec e).2.2.unmapRange

/-- **no temporary mapping remains**, whatever the device and `mmap` answer: after the access (completed, or
    aborted by the `unwrap`) the kernel holds exactly the mmap ranges and grant mappings it held before -/
theorem access_leaves_nothing (k : Kernel) (guestBase offset len page : Nat) (sc : Script)
    (o : Outcome) (k' : Kernel) (sc' : Script)
    (h : access k guestBase offset len page sc = (o, k', sc')) :
    k'.maps = k.maps ∧ k'.grants = k.grants := by
  have g := access_gain k guestBase offset len page sc
  rw [h] at g
  exact ⟨g.maps, g.grants⟩

theorem zero_length_access_no_call (k : Kernel) (guestBase offset page : Nat) (sc : Script) :
    access k guestBase offset 0 page sc = (.raw, k, sc) := by
  simp [access]

theorem access_completes (k : Kernel) (guestBase offset len page : Nat) (hl : 0 < len) :
    (access k guestBase offset len page []).1 = .done := by
  have : len ≠ 0 := by omega
  simp [access, this, mmapRange, grantMapCall, mmapCall, pages]

/-- the unmap request names exactly the pages the map request named (what `Drop` passes is the window's
    `size`, which `pages` turns into the same count) -/
theorem requests_balanced (guestBase offset len page : Nat) :
    Xen.liveAfter (requests guestBase offset len page) = [] := by
  unfold requests
  split
  · rfl
  · simp [Xen.liveAfter]

/-- the window requested covers every byte of the access: `[offset, offset+len) ⊆ [pageBase, pageBase + pages·page)` -/
theorem window_covers_access (guestBase offset len page : Nat) (hp : 0 < page) :
    let w := Xen.window page guestBase offset len
    w.pageBase ≤ offset ∧ offset + len ≤ w.pageBase + (pages w.mapSize page).2 := by
  obtain ⟨h1, h2, -⟩ := C17.window_covers page guestBase offset len hp
  refine ⟨h1, ?_⟩
  rw [pages, Nat.mul_comm]
  exact h2


/-- the window is released **once**: the access never gives back a range or a grant mapping it does not hold -/
theorem access_no_fault (k : Kernel) (guestBase offset len page : Nat) (sc : Script) :
    (access k guestBase offset len page sc).2.1.faults = k.faults :=
  (access_gain k guestBase offset len page sc).faults

/-- 8 bytes across a page boundary; the device cooperating, then `mmap` failing -/
example : (access {} 0x10000 0xffe 8 4096 []).2.1.maps = [] ∧ (access {} 0x10000 0xffe 8 4096 []).2.1.grants = [] ∧ (access {} 0x10000 0xffe 8 4096 []).1 = .done := by decide
example : (access {} 0x10000 0xffe 8 4096 [true, false]).1 = .unwrapPanic ∧ (access {} 0x10000 0xffe 8 4096 [true, false]).2.1.grants = [] := by decide
example : requests 0x10000 0xffe 8 4096 = [.map 0x10000 2, .unmap 0x10000 2] := by decide

end C17x
end VmMem
#print axioms VmMem.C17x.access_leaves_nothing
#print axioms VmMem.C17x.zero_length_access_no_call
#print axioms VmMem.C17x.access_completes
#print axioms VmMem.C17x.requests_balanced
#print axioms VmMem.C17x.window_covers_access
#print axioms VmMem.C17x.access_no_fault
