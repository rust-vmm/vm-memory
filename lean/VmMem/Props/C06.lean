/-
  VmMem.Props.C06 — properties of `copy_slice_volatile` / `copy_slice`
  (volatile_memory.rs) as modelled in VmMem.Model.Copy.

  Hypotheses `src ≠ 0`, `dst ≠ 0`: `alignment 0 = 0`, so for a null pointer every
  `copy_aligned_slice(min_align)` returns early and nothing is copied (`plan_null_src`,
  `plan_null_dst`).  The crate does call `alignment` with a null pointer — a zero-length access
  at offset 0 of an on-demand Xen grant region (fix 2fc7148) — but then `total = 0`; a pointer
  to mapped memory is non-null.
-/
import VmMem.Lemmas.CopyLemmas
namespace VmMem.C06
open VmMem VmMem.CopyLemmas

/-! ## 1. alignment -/

/-- the computed alignment is at least any power of two dividing a non-zero address -/
theorem alignment_ge (a : BitVec 64) (k : Nat) (h0 : a ≠ 0) (h : a.toNat % 2 ^ k = 0) :
    2 ^ k ≤ (alignment a).toNat :=
  CopyLemmas.alignment_ge a k h0 h

/-- the computed alignment divides the address (also at `0`, where it is `0`) -/
theorem alignment_dvd (a : BitVec 64) : (alignment a).toNat ∣ a.toNat :=
  CopyLemmas.alignment_dvd a

/-- for a non-zero address the alignment is a power of two: the lowest set bit -/
theorem alignment_pow2 (a : BitVec 64) (h0 : a ≠ 0) :
    ∃ j, j < 64 ∧ (alignment a).toNat = 2 ^ j ∧ a.toNat.testBit j = true ∧
      a.toNat % 2 ^ j = 0 :=
  CopyLemmas.alignment_spec a h0

/-- a power of two not exceeding the alignment divides the address -/
theorem alignment_le_dvd (a : BitVec 64) (i : Nat) (h0 : a ≠ 0)
    (hle : 2 ^ i ≤ (alignment a).toNat) : a.toNat % 2 ^ i = 0 :=
  CopyLemmas.alignment_le_dvd a i h0 hle

theorem alignment_null : alignment 0 = 0 := CopyLemmas.alignment_zero

/-! ## 2. the loop -/

theorem copyLoop_spec (w left off : Nat) (hw : 0 < w) :
    (copyLoop w left off).1 = (List.range (left / w)).map (fun i => (⟨w, off + i * w⟩ : Access)) ∧
    (copyLoop w left off).2.1 = left % w ∧
    (copyLoop w left off).2.2 = off + left / w * w := by
  rw [copyLoop_eq w left off hw]
  exact ⟨rfl, rfl, rfl⟩

/-! ## 3. the plan copies every byte exactly once, in order -/

-- with `tiles (copyPlan ..) 0` as an expected type the elaborator would unfold `copyPlan` down to
-- the stuck well-founded `copyLoop`, several times per statement
attribute [local irreducible] copyPlan

private theorem widths_pos : ∀ w ∈ [8, 4, 2, 1], 0 < w := by decide

private theorem plan_spec (src dst : BitVec 64) (total : Nat) :
    widthSum (copyPlan src dst total) ≤ total ∧
    tiles (copyPlan src dst total) 0 ∧
    (∀ x ∈ copyPlan src dst total, x.width ∈ [8, 4, 2, 1] ∧
      x.width ≤ min (alignment src).toNat (alignment dst).toNat ∧ x.width ∣ x.off) ∧
    (∀ w ∈ [8, 4, 2, 1], w ≤ min (alignment src).toNat (alignment dst).toNat →
      total - widthSum (copyPlan src dst total) < w) := by
  rw [copyPlan_eq_passes]
  exact passes_spec _ [8, 4, 2, 1] widths_pos (by decide) total 0 (fun w _ => Nat.dvd_zero w)

/-- all bytes are copied: the widths of the plan add up to `total` -/
theorem plan_total (src dst : BitVec 64) (total : Nat) (hs : src ≠ 0) (hd : dst ≠ 0) :
    ((copyPlan src dst total).map (·.width)).sum = total := by
  obtain ⟨h1, -, -, h4⟩ := plan_spec src dst total
  have := h4 1 (by decide) (Nat.le_min.2 ⟨alignment_pos src hs, alignment_pos dst hd⟩)
  unfold widthSum at h1 this
  omega

/-- the accesses tile `[0, total)` in increasing order with no gap and no overlap:
    each access starts where the previous one ended, the first one at `0`
    (and by `plan_total` the last one ends at `total`).  Holds for all pointers. -/
theorem plan_contiguous (src dst : BitVec 64) (total : Nat) :
    tiles (copyPlan src dst total) 0 :=
  (plan_spec src dst total).2.1

/-- `tiles` unfolded: the `i`-th access starts at the sum of the widths before it -/
theorem tiles_getElem (l : List Access) (o i : Nat) (h : tiles l o) (hi : i < l.length) :
    l[i].off = o + ((l.take i).map (·.width)).sum := by
  induction l generalizing o i with
  | nil => cases hi
  | cons a l ih =>
    obtain ⟨h1, h2⟩ := h
    cases i with
    | zero => simpa using h1
    | succ i =>
      have := ih (o + a.width) i h2 (by simpa using hi)
      simp only [List.getElem_cons_succ, List.take_succ_cons, List.map_cons, List.sum_cons]
      omega

/-- without the non-null hypotheses only `≤` holds … -/
theorem plan_total_le (src dst : BitVec 64) (total : Nat) :
    ((copyPlan src dst total).map (·.width)).sum ≤ total :=
  (plan_spec src dst total).1

private theorem plan_of_align_zero (src dst : BitVec 64) (total : Nat)
    (h : min (alignment src).toNat (alignment dst).toNat = 0) : copyPlan src dst total = [] := by
  rw [copyPlan_eq_passes, h]
  exact passes_skip 0 [8, 4, 2, 1] [] _ _ fun v hv => Or.inl (widths_pos v hv)

/-- … because at a null pointer `alignment = 0` and no pass runs: nothing is copied -/
theorem plan_null_src (dst : BitVec 64) (total : Nat) : copyPlan 0 dst total = [] :=
  plan_of_align_zero 0 dst total (by rw [alignment_zero]; exact Nat.zero_min _)

theorem plan_null_dst (src : BitVec 64) (total : Nat) : copyPlan src 0 total = [] :=
  plan_of_align_zero src 0 total (by rw [alignment_zero]; exact Nat.min_zero _)

/-- so `plan_total` is false without `src ≠ 0` -/
example : ((copyPlan 0 0x2008 8).map (·.width)).sum ≠ 8 := by
  rw [plan_null_src]; decide

/-! ## 4. an aligned 1/2/4/8-byte transfer is one access -/

private theorem min_align_ge (src dst : BitVec 64) (k : Nat) (hs : src ≠ 0) (hd : dst ≠ 0)
    (hsa : src.toNat % 2 ^ k = 0) (hda : dst.toNat % 2 ^ k = 0) :
    2 ^ k ≤ min (alignment src).toNat (alignment dst).toNat :=
  Nat.le_min.2 ⟨CopyLemmas.alignment_ge src k hs hsa, CopyLemmas.alignment_ge dst k hd hda⟩

theorem single_access (src dst : BitVec 64) (w : Nat)
    (hw : w = 1 ∨ w = 2 ∨ w = 4 ∨ w = 8) (hs : src ≠ 0) (hd : dst ≠ 0)
    (hsa : src.toNat % w = 0) (hda : dst.toNat % w = 0) :
    copyPlan src dst w = [⟨w, 0⟩] := by
  rw [copyPlan_eq_passes]
  rcases hw with rfl | rfl | rfl | rfl
  · exact passes_single _ 1 [8, 4, 2] [] 0 (by decide) (by decide)
      (min_align_ge src dst 0 hs hd hsa hda) (by decide)
  · exact passes_single _ 2 [8, 4] [1] 0 (by decide) (by decide)
      (min_align_ge src dst 1 hs hd hsa hda) (by decide)
  · exact passes_single _ 4 [8] [2, 1] 0 (by decide) (by decide)
      (min_align_ge src dst 2 hs hd hsa hda) (by decide)
  · exact passes_single _ 8 [] [4, 2, 1] 0 (by decide) (by decide)
      (min_align_ge src dst 3 hs hd hsa hda) (by decide)

theorem single_access_trace (src dst : BitVec 64) (w : Nat)
    (hw : w = 1 ∨ w = 2 ∨ w = 4 ∨ w = 8) (hs : src ≠ 0) (hd : dst ≠ 0)
    (hsa : src.toNat % w = 0) (hda : dst.toNat % w = 0) :
    copySliceTrace src dst w = .volatile [⟨w, 0⟩] := by
  have hle : w ≤ 8 := by omega
  simp only [copySliceTrace, hle, if_true, single_access src dst w hw hs hd hsa hda]

/-! ## 5. every primitive access is a naturally aligned 1/2/4/8-byte access -/

theorem widths_valid (src dst : BitVec 64) (total : Nat) :
    ∀ x, x ∈ copyPlan src dst total →
      x.width = 1 ∨ x.width = 2 ∨ x.width = 4 ∨ x.width = 8 := by
  intro x hx
  have h : ∀ n ∈ [8, 4, 2, 1], n = 1 ∨ n = 2 ∨ n = 4 ∨ n = 8 := by decide
  exact h _ ((plan_spec src dst total).2.2.1 x hx).1

theorem accesses_aligned (src dst : BitVec 64) (total : Nat) (hs : src ≠ 0) (hd : dst ≠ 0) :
    ∀ x, x ∈ copyPlan src dst total →
      (src.toNat + x.off) % x.width = 0 ∧ (dst.toNat + x.off) % x.width = 0 := by
  intro x hx
  obtain ⟨hw, hle, hoff⟩ := (plan_spec src dst total).2.2.1 x hx
  obtain ⟨hls, hld⟩ := Nat.le_min.1 hle
  have hpow : ∀ n ∈ [8, 4, 2, 1], ∃ i < 4, n = 2 ^ i := by decide
  obtain ⟨i, -, hi⟩ := hpow _ hw
  rw [hi] at hls hld hoff ⊢
  exact ⟨Nat.mod_eq_zero_of_dvd (Nat.dvd_add
      (Nat.dvd_of_mod_eq_zero (CopyLemmas.alignment_le_dvd src i hs hls)) hoff),
    Nat.mod_eq_zero_of_dvd (Nat.dvd_add
      (Nat.dvd_of_mod_eq_zero (CopyLemmas.alignment_le_dvd dst i hd hld)) hoff)⟩

/-! ## 6. above the threshold: one bulk copy -/

theorem bulk_above_threshold (src dst : BitVec 64) (total : Nat) (h : 8 < total) :
    copySliceTrace src dst total = .bulk total := by
  have : ¬ total ≤ 8 := by omega
  simp only [copySliceTrace, this, if_false]

/-- and at or below it: the volatile plan -/
theorem volatile_at_threshold (src dst : BitVec 64) (total : Nat) (h : total ≤ 8) :
    copySliceTrace src dst total = .volatile (copyPlan src dst total) := by
  simp only [copySliceTrace, h, if_true]

/-! ## 7. non-vacuity -/

example : copyPlan 0x1004 0x2008 7 = [⟨4, 0⟩, ⟨2, 4⟩, ⟨1, 6⟩] := by
  have ha : min (alignment 0x1004#64).toNat (alignment 0x2008#64).toNat = 4 := by decide
  simp [copyPlan, ha, copyPass_eq, stride]

example : copyPlan 0x1008 0x2008 8 = [⟨8, 0⟩] := by
  have ha : min (alignment 0x1008#64).toNat (alignment 0x2008#64).toNat = 8 := by decide
  simp [copyPlan, ha, copyPass_eq, stride]

/-- a misaligned 8-byte copy is eight 1-byte accesses: the alignment hypotheses of
    `single_access` are necessary -/
example : copyPlan 0x1001 0x2008 8 =
    [⟨1, 0⟩, ⟨1, 1⟩, ⟨1, 2⟩, ⟨1, 3⟩, ⟨1, 4⟩, ⟨1, 5⟩, ⟨1, 6⟩, ⟨1, 7⟩] := by
  have ha : min (alignment 0x1001#64).toNat (alignment 0x2008#64).toNat = 1 := by decide
  simp [copyPlan, ha, copyPass_eq, stride, List.range_succ]

example : copySliceTrace 0x1008 0x2008 8 = .volatile [⟨8, 0⟩] :=
  single_access_trace 0x1008 0x2008 8 (by decide) (by decide) (by decide) (by decide) (by decide)

example : copySliceTrace 0x1008 0x2008 9 = .bulk 9 :=
  bulk_above_threshold _ _ 9 (by decide)

example : alignment 0x1004 = 4 := by decide
example : alignment 0x2008 = 8 := by decide
example : alignment 0 = 0 := by decide

end VmMem.C06

#print axioms VmMem.C06.alignment_ge
#print axioms VmMem.C06.alignment_dvd
#print axioms VmMem.C06.alignment_pow2
#print axioms VmMem.C06.alignment_le_dvd
#print axioms VmMem.C06.copyLoop_spec
#print axioms VmMem.C06.plan_total
#print axioms VmMem.C06.plan_contiguous
#print axioms VmMem.C06.tiles_getElem
#print axioms VmMem.C06.plan_total_le
#print axioms VmMem.C06.plan_null_src
#print axioms VmMem.C06.plan_null_dst
#print axioms VmMem.C06.single_access
#print axioms VmMem.C06.single_access_trace
#print axioms VmMem.C06.widths_valid
#print axioms VmMem.C06.accesses_aligned
#print axioms VmMem.C06.bulk_above_threshold
#print axioms VmMem.C06.volatile_at_threshold
