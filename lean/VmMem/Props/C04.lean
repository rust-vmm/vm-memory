/-
  VmMem.Props.C04 — data movement inside one container.

  Within one container every way of moving data transfers exactly the addressed
  bytes in address order, leaves every other byte unchanged, and reports the number
  of bytes/elements actually transferred = the requested amount cut off at the end of
  the accessor; a buffer/object transfer of ≥ 1 byte starting at or past the end is an
  error; all routes observe the same memory.

  Every mutating operation is specified as `∃ m', op = .ok … ∧ Stored m w d … m'` (DataLemmas)
  for an explicit window `w`, `d`; frame, window and length facts are then the `Stored.*` lemmas.
  Every reading operation is specified as `op = .ok ((m.bytes.drop w).take n)`.  The hypotheses:
  `Inside m s` (what `C01.chain_inside` establishes for every accessor derived from the container's
  root), `MemWF m`, and `BmInv m` — the invariant of C09, the only thing that keeps `mark_dirty`
  from indexing out of range.
-/
import VmMem.Model.Volatile
import VmMem.Lemmas.VolatileLemmas
import VmMem.Lemmas.DataLemmas
import VmMem.Props.C01
import VmMem.Props.C09
namespace VmMem
namespace C04
open VolatileLemmas DataLemmas

/-! ## §0 vocabulary -/

def Inside (m : Mem) (s : VSlice) : Prop :=
  m.base ≤ s.addr ∧ s.addr + s.size ≤ m.base + m.bytes.length

def AInside (m : Mem) (a : VArr) : Prop :=
  m.base ≤ a.addr ∧ a.addr + a.nelem * a.ty.size ≤ m.base + m.bytes.length

/-- the container fits the address space and its length is a `usize` value -/
structure MemWF (m : Mem) : Prop where
  fits : m.base + m.bytes.length ≤ U
  len_lt : m.bytes.length < U

/-- container offset of the first byte of a slice -/
def ofs (m : Mem) (s : VSlice) : Nat := s.addr - m.base

theorem Inside.size_lt {m : Mem} {s : VSlice} (hin : Inside m s) (hwf : MemWF m) : s.size < U :=
  Nat.lt_of_le_of_lt (Win.le_length hin) hwf.len_lt

theorem Inside.window {m : Mem} {s : VSlice} (hin : Inside m s) :
    ofs m s + s.size ≤ m.bytes.length := Win.end_le hin

theorem root_inside (m : Mem) : Inside m m.root := ⟨Nat.le_refl _, Nat.le_refl _⟩

theorem isEmpty_false {buf : List UInt8} (h : buf ≠ []) : buf.isEmpty = false :=
  List.isEmpty_eq_false_iff.2 h

theorem Inside.offset {m : Mem} {s : VSlice} (hin : Inside m s) (hwf : MemWF m) {a : Nat}
    (h : a < s.size) :
    s.offset a = .ok { addr := s.addr + a, size := s.size - a, bmBase := sliceAt s.bmBase a } :=
  offset_of (Nat.lt_of_lt_of_le (Nat.add_lt_add_left h _) (Nat.le_trans hin.2 hwf.fits))
    (Nat.le_of_lt h)

theorem cut_fits {a size : Nat} (h : a < size) (len : Nat) : a + min len (size - a) ≤ size :=
  Nat.add_le_of_le_sub' (Nat.le_of_lt h) (Nat.min_le_right _ _)

/-- what every step preserves -/
structure Same (m m' : Mem) : Prop where
  base : m'.base = m.base
  length : m'.bytes.length = m.bytes.length
  inv : BmInv m'
  wf : MemWF m'

theorem Same.refl {m : Mem} (hinv : BmInv m) (hwf : MemWF m) : Same m m := ⟨rfl, rfl, hinv, hwf⟩

theorem Same.trans {m1 m2 m3 : Mem} (h1 : Same m1 m2) (h2 : Same m2 m3) : Same m1 m3 :=
  ⟨h2.base.trans h1.base, h2.length.trans h1.length, h2.inv, h2.wf⟩

theorem _root_.VmMem.DataLemmas.Stored.inside {m m' : Mem} {w : Nat} {d : List UInt8} {b o l : Nat}
    (h : Stored m w d b o l m') {s : VSlice} (hin : Inside m s) : Inside m' s :=
  Win.congr h.base h.length_eq hin

theorem _root_.VmMem.DataLemmas.Stored.memWF {m m' : Mem} {w : Nat} {d : List UInt8} {b o l : Nat}
    (h : Stored m w d b o l m') (hwf : MemWF m) : MemWF m' :=
  ⟨by rw [h.base, h.length_eq]; exact hwf.fits, by rw [h.length_eq]; exact hwf.len_lt⟩

theorem _root_.VmMem.DataLemmas.Stored.ofs_eq {m m' : Mem} {w : Nat} {d : List UInt8} {b o l : Nat}
    (h : Stored m w d b o l m') (s : VSlice) : ofs m' s = ofs m s := by
  unfold ofs; rw [h.base]

theorem _root_.VmMem.DataLemmas.Stored.ainside {m m' : Mem} {w : Nat} {d : List UInt8} {b o l : Nat}
    (h : Stored m w d b o l m') {a : VArr} (hin : AInside m a) : AInside m' a :=
  Win.congr h.base h.length_eq hin

theorem _root_.VmMem.DataLemmas.Stored.same {m m' : Mem} {w : Nat} {d : List UInt8} {b o l : Nat}
    (h : Stored m w d b o l m') (hwf : MemWF m) : Same m m' :=
  ⟨h.base, h.length_eq, h.inv, h.memWF hwf⟩

/-- what a mutating call does to a container: it refuses with an error value, or it stores
    (`f` picks the container out of the value returned) -/
inductive Outcome {α : Type} (m : Mem) (f : α → Mem) : Res α → Prop
  | refused (e : Err) : Outcome m f (.err e)
  | stored {w : Nat} {d : List UInt8} {b o l : Nat} {x : α} (h : Stored m w d b o l (f x)) :
      Outcome m f (.ok x)

theorem Outcome.ne_panic {α : Type} {m : Mem} {f : α → Mem} {x : Res α} (h : Outcome m f x) :
    x ≠ .panic := by
  cases h <;> nofun

theorem Outcome.of_ok {m : Mem} {x : Res Mem} {w : Nat} {d : List UInt8} {b o l : Nat}
    (h : ∃ m', x = .ok m' ∧ Stored m w d b o l m') : Outcome m id x := by
  obtain ⟨m', rfl, hst⟩ := h
  exact .stored hst

/-! ## §1 raw layer (re-exported from DataLemmas under the property's name) -/

theorem raw_write (m : Mem) (addr : Nat) (d : List UInt8)
    (h : m.base ≤ addr ∧ addr + d.length ≤ m.base + m.bytes.length) :
    m.writeAt addr d = .ok { m with bytes := splice m.bytes (addr - m.base) d } :=
  writeAt_ok m addr d h

theorem raw_read (m : Mem) (addr n : Nat)
    (h : m.base ≤ addr ∧ addr + n ≤ m.base + m.bytes.length) :
    m.readAt addr n = .ok ((m.bytes.drop (addr - m.base)).take n) :=
  readAt_ok m addr n h

/-- an out-of-container raw access of ≥ 1 byte is the model's rendering of UB -/
theorem raw_write_outside (m : Mem) (addr : Nat) (d : List UInt8) (hd : d ≠ [])
    (h : ¬ (m.base ≤ addr ∧ addr + d.length ≤ m.base + m.bytes.length)) :
    m.writeAt addr d = .panic := writeAt_panic m addr d hd h

theorem raw_read_outside (m : Mem) (addr n : Nat) (hn : n ≠ 0)
    (h : ¬ (m.base ≤ addr ∧ addr + n ≤ m.base + m.bytes.length)) :
    m.readAt addr n = .panic := readAt_panic m addr n hn h

/-! ## §2 `Bytes<usize> for VolatileSlice`: `write` / `read` -/

/-- an empty buffer: `Ok(0)` at any offset -/
theorem write_empty (m : Mem) (s : VSlice) (addr : Nat) : s.write m [] addr = .ok (m, 0) := rfl

/-- ≥ 1 byte starting at or past the end: `OutOfBounds` -/
theorem write_oob (m : Mem) (s : VSlice) (buf : List UInt8) (addr : Nat) (hne : buf ≠ [])
    (h : s.size ≤ addr) : s.write m buf addr = .err .outOfBounds := by
  unfold VSlice.write
  rw [isEmpty_false hne, if_neg Bool.false_ne_true, if_pos h]

/-- in range: exactly `n = min buf.length (s.size - addr)` bytes — the front of `buf` —
    are stored at container offset `ofs + addr`, `n` is reported, and
    `mark_dirty(0, n)` goes through the bitmap slice of `s.offset(addr)`. -/
theorem write_ok (m : Mem) (s : VSlice) (buf : List UInt8) (addr : Nat)
    (hinv : BmInv m) (hwf : MemWF m) (hin : Inside m s) (hne : buf ≠ []) (h : addr < s.size) :
    ∃ m', s.write m buf addr = .ok (m', min buf.length (s.size - addr)) ∧
      Stored m (ofs m s + addr) (buf.take (min buf.length (s.size - addr)))
        (sliceAt s.bmBase addr) 0 (min buf.length (s.size - addr)) m' := by
  unfold VSlice.write
  rw [isEmpty_false hne, if_neg Bool.false_ne_true, if_neg (Nat.not_le.2 h), hin.offset hwf h,
    Res.bind_ok, Nat.min_comm]
  exact copyToVolatileSlice_sub hinv hin (cut_fits h _) _ _ buf

theorem write_outcome (m : Mem) (s : VSlice) (buf : List UInt8) (addr : Nat)
    (hinv : BmInv m) (hwf : MemWF m) (hin : Inside m s) :
    Outcome m Prod.fst (s.write m buf addr) := by
  by_cases hne : buf = []
  · subst hne
    exact .stored (Stored.refl hinv 0 0 0)
  · by_cases h : addr < s.size
    · obtain ⟨m', hok, hst⟩ := write_ok m s buf addr hinv hwf hin hne h
      rw [hok]
      exact .stored hst
    · rw [write_oob m s buf addr hne (Nat.le_of_not_lt h)]
      exact .refused _

theorem write_spec (m : Mem) (s : VSlice) (buf : List UInt8) (addr : Nat)
    (hinv : BmInv m) (hwf : MemWF m) (hin : Inside m s) :
    (buf = [] → s.write m buf addr = .ok (m, 0)) ∧
    (buf ≠ [] → s.size ≤ addr → s.write m buf addr = .err .outOfBounds) ∧
    (buf ≠ [] → addr < s.size →
      ∃ m', s.write m buf addr = .ok (m', min buf.length (s.size - addr)) ∧
        Stored m (ofs m s + addr) (buf.take (min buf.length (s.size - addr)))
          (sliceAt s.bmBase addr) 0 (min buf.length (s.size - addr)) m') :=
  ⟨fun h => by rw [h]; rfl, write_oob m s buf addr, write_ok m s buf addr hinv hwf hin⟩

theorem write_no_panic (m : Mem) (s : VSlice) (buf : List UInt8) (addr : Nat)
    (hinv : BmInv m) (hwf : MemWF m) (hin : Inside m s) : s.write m buf addr ≠ .panic :=
  (write_outcome m s buf addr hinv hwf hin).ne_panic

/-- without a tracking bitmap the result is the spliced container, outright -/
theorem write_ok_untracked (m : Mem) (s : VSlice) (buf : List UInt8) (addr : Nat)
    (hbm : m.bm = none) (hwf : MemWF m) (hin : Inside m s) (hne : buf ≠ []) (h : addr < s.size) :
    s.write m buf addr =
      .ok ({ m with bytes := (splice m.bytes (ofs m s + addr)
              (buf.take (min buf.length (s.size - addr)))) }, min buf.length (s.size - addr)) := by
  obtain ⟨m', hok, hst⟩ := write_ok m s buf addr (BmInv_none m hbm) hwf hin hne h
  rw [hok, hst.eq_of_bm_none hbm]

theorem read_zero (m : Mem) (s : VSlice) (addr : Nat) : s.read m 0 addr = .ok [] := rfl

theorem read_oob (m : Mem) (s : VSlice) (len addr : Nat) (hne : 0 < len) (h : s.size ≤ addr) :
    s.read m len addr = .err .outOfBounds := by
  unfold VSlice.read
  rw [if_neg (Nat.ne_of_gt hne), if_pos h]

/-- in range: the `min len (s.size - addr)` bytes at container offset `ofs + addr`, in order -/
theorem read_ok (m : Mem) (s : VSlice) (len addr : Nat)
    (hwf : MemWF m) (hin : Inside m s) (hne : 0 < len) (h : addr < s.size) :
    s.read m len addr = .ok ((m.bytes.drop (ofs m s + addr)).take (min len (s.size - addr))) := by
  unfold VSlice.read
  rw [if_neg (Nat.ne_of_gt hne), if_neg (Nat.not_le.2 h), hin.offset hwf h, Res.bind_ok,
    Nat.min_comm]
  exact readAt_sub hin (cut_fits h _)

theorem read_fit (m : Mem) (s : VSlice) (len addr : Nat) (hwf : MemWF m) (hin : Inside m s)
    (hne : 0 < len) (hfit : addr + len ≤ s.size) :
    s.read m len addr = .ok ((m.bytes.drop (ofs m s + addr)).take len) := by
  have h : addr < s.size := Nat.lt_of_lt_of_le (Nat.lt_add_of_pos_right hne) hfit
  rw [read_ok m s len addr hwf hin hne h, Nat.min_eq_left (Nat.le_sub_of_add_le' hfit)]

theorem read_spec (m : Mem) (s : VSlice) (len addr : Nat) (hwf : MemWF m) (hin : Inside m s) :
    (len = 0 → s.read m len addr = .ok []) ∧
    (0 < len → s.size ≤ addr → s.read m len addr = .err .outOfBounds) ∧
    (0 < len → addr < s.size →
      s.read m len addr = .ok ((m.bytes.drop (ofs m s + addr)).take (min len (s.size - addr)))) :=
  ⟨fun h => by rw [h]; rfl, read_oob m s len addr, read_ok m s len addr hwf hin⟩

theorem read_length (m : Mem) (s : VSlice) (len addr : Nat) (hwf : MemWF m) (hin : Inside m s)
    (hne : 0 < len) (h : addr < s.size) :
    ∃ d, s.read m len addr = .ok d ∧ d.length = min len (s.size - addr) :=
  ⟨_, read_ok m s len addr hwf hin hne h, Win.take_length hin (cut_fits h len)⟩

theorem read_no_panic (m : Mem) (s : VSlice) (len addr : Nat) (hwf : MemWF m) (hin : Inside m s) :
    s.read m len addr ≠ .panic := by
  rcases Nat.eq_zero_or_pos len with rfl | hne
  · rw [read_zero]; nofun
  · by_cases h : addr < s.size
    · rw [read_ok m s len addr hwf hin hne h]; nofun
    · rw [read_oob m s len addr hne (Nat.le_of_not_lt h)]; nofun

/-! ## §3 `write_slice` / `read_slice` / `write_obj` / `read_obj` -/

theorem writeSlice_empty (m : Mem) (s : VSlice) (addr : Nat) :
    s.writeSlice m [] addr = (m, .ok ()) := rfl

theorem writeSlice_oob (m : Mem) (s : VSlice) (buf : List UInt8) (addr : Nat) (hne : buf ≠ [])
    (h : s.size ≤ addr) : s.writeSlice m buf addr = (m, .err .outOfBounds) :=
  writeSlice_of_err (write_oob m s buf addr hne h)

/-- the whole buffer fits: it is stored, `Ok(())` -/
theorem writeSlice_full (m : Mem) (s : VSlice) (buf : List UInt8) (addr : Nat)
    (hinv : BmInv m) (hwf : MemWF m) (hin : Inside m s) (hne : buf ≠ []) (h : addr < s.size)
    (hfit : buf.length ≤ s.size - addr) :
    ∃ m', s.writeSlice m buf addr = (m', .ok ()) ∧
      Stored m (ofs m s + addr) buf (sliceAt s.bmBase addr) 0 buf.length m' := by
  obtain ⟨m', hok, hst⟩ := write_ok m s buf addr hinv hwf hin hne h
  rw [Nat.min_eq_left hfit] at hok hst
  rw [List.take_length] at hst
  exact ⟨m', by rw [writeSlice_of_ok hok, if_neg (fun hn => hn rfl)], hst⟩

/-- a shortfall: the prefix that fits is stored (and marked), then
    `PartialBuffer { expected, completed }` -/
theorem writeSlice_partial (m : Mem) (s : VSlice) (buf : List UInt8) (addr : Nat)
    (hinv : BmInv m) (hwf : MemWF m) (hin : Inside m s) (h : addr < s.size)
    (hshort : s.size - addr < buf.length) :
    ∃ m', s.writeSlice m buf addr = (m', .err (.partialBuffer buf.length (s.size - addr))) ∧
      Stored m (ofs m s + addr) (buf.take (s.size - addr)) (sliceAt s.bmBase addr) 0
        (s.size - addr) m' := by
  have hne : buf ≠ [] := fun h0 => by rw [h0] at hshort; exact Nat.not_lt_zero _ hshort
  obtain ⟨m', hok, hst⟩ := write_ok m s buf addr hinv hwf hin hne h
  rw [Nat.min_eq_right (Nat.le_of_lt hshort)] at hok hst
  exact ⟨m', by rw [writeSlice_of_ok hok, if_pos (Nat.ne_of_lt hshort)], hst⟩

/-- `write_slice` succeeds iff the buffer is empty or fits entirely -/
theorem writeSlice_ok_iff (m : Mem) (s : VSlice) (buf : List UInt8) (addr : Nat)
    (hinv : BmInv m) (hwf : MemWF m) (hin : Inside m s) :
    (s.writeSlice m buf addr).2 = .ok () ↔
      buf = [] ∨ (addr < s.size ∧ buf.length ≤ s.size - addr) := by
  by_cases hne : buf = []
  · subst hne
    exact ⟨fun _ => .inl rfl, fun _ => rfl⟩
  · by_cases h : addr < s.size
    · by_cases hfit : buf.length ≤ s.size - addr
      · obtain ⟨m', hok, _⟩ := writeSlice_full m s buf addr hinv hwf hin hne h hfit
        rw [hok]
        exact ⟨fun _ => .inr ⟨h, hfit⟩, fun _ => rfl⟩
      · obtain ⟨m', hok, _⟩ := writeSlice_partial m s buf addr hinv hwf hin h (Nat.lt_of_not_le hfit)
        rw [hok]
        exact ⟨nofun, fun h' => absurd (h'.resolve_left hne).2 hfit⟩
    · rw [writeSlice_oob m s buf addr hne (Nat.le_of_not_lt h)]
      exact ⟨nofun, fun h' => absurd (h'.resolve_left hne).1 h⟩

theorem writeSlice_no_panic (m : Mem) (s : VSlice) (buf : List UInt8) (addr : Nat)
    (hinv : BmInv m) (hwf : MemWF m) (hin : Inside m s) :
    (s.writeSlice m buf addr).2 ≠ .panic := by
  have := write_no_panic m s buf addr hinv hwf hin
  unfold VSlice.writeSlice
  cases hx : s.write m buf addr with
  | ok p => dsimp only; split <;> nofun
  | err e => nofun
  | panic => exact absurd hx this

theorem readSlice_zero (m : Mem) (s : VSlice) (addr : Nat) : s.readSlice m 0 addr = .ok [] := rfl

theorem readSlice_oob (m : Mem) (s : VSlice) (len addr : Nat) (hne : 0 < len) (h : s.size ≤ addr) :
    s.readSlice m len addr = .err .outOfBounds := by
  unfold VSlice.readSlice
  rw [read_oob m s len addr hne h]; rfl

theorem readSlice_full (m : Mem) (s : VSlice) (len addr : Nat) (hwf : MemWF m) (hin : Inside m s)
    (hne : 0 < len) (h : addr < s.size) (hfit : len ≤ s.size - addr) :
    s.readSlice m len addr = .ok ((m.bytes.drop (ofs m s + addr)).take len) := by
  have hfit' : addr + len ≤ s.size := Nat.add_le_of_le_sub' (Nat.le_of_lt h) hfit
  unfold VSlice.readSlice
  rw [read_fit m s len addr hwf hin hne hfit', Res.bind_ok]
  exact if_neg (fun hn => hn (Win.take_length hin hfit'))

theorem readSlice_partial (m : Mem) (s : VSlice) (len addr : Nat) (hwf : MemWF m)
    (hin : Inside m s) (h : addr < s.size) (hshort : s.size - addr < len) :
    s.readSlice m len addr = .err (.partialBuffer len (s.size - addr)) := by
  have hl : ((m.bytes.drop (ofs m s + addr)).take (s.size - addr)).length = s.size - addr :=
    Win.take_length hin (Nat.le_of_eq (Nat.add_sub_cancel' (Nat.le_of_lt h)))
  unfold VSlice.readSlice
  rw [read_ok m s len addr hwf hin (Nat.zero_lt_of_lt hshort) h, Res.bind_ok,
    Nat.min_eq_right (Nat.le_of_lt hshort)]
  rw [if_pos (by rw [hl]; exact Nat.ne_of_lt hshort), hl]

theorem readSlice_ok_iff (m : Mem) (s : VSlice) (len addr : Nat) (hwf : MemWF m) (hin : Inside m s) :
    (s.readSlice m len addr).isOk = true ↔ len = 0 ∨ (addr < s.size ∧ len ≤ s.size - addr) := by
  rcases Nat.eq_zero_or_pos len with rfl | hne
  · exact ⟨fun _ => .inl rfl, fun _ => rfl⟩
  · have hne' : len ≠ 0 := Nat.ne_of_gt hne
    by_cases h : addr < s.size
    · by_cases hfit : len ≤ s.size - addr
      · rw [readSlice_full m s len addr hwf hin hne h hfit]
        exact ⟨fun _ => .inr ⟨h, hfit⟩, fun _ => rfl⟩
      · rw [readSlice_partial m s len addr hwf hin h (Nat.lt_of_not_le hfit)]
        exact ⟨nofun, fun h' => absurd (h'.resolve_left hne').2 hfit⟩
    · rw [readSlice_oob m s len addr hne (Nat.le_of_not_lt h)]
      exact ⟨nofun, fun h' => absurd (h'.resolve_left hne').1 h⟩

theorem readSlice_no_panic (m : Mem) (s : VSlice) (len addr : Nat) (hwf : MemWF m)
    (hin : Inside m s) : s.readSlice m len addr ≠ .panic := by
  have := read_no_panic m s len addr hwf hin
  unfold VSlice.readSlice
  cases hx : s.read m len addr with
  | ok d => rw [Res.bind_ok]; split <;> nofun
  | err e => nofun
  | panic => exact absurd hx this

/-- `write_obj` / `read_obj` are `write_slice` / `read_slice` of the object's bytes -/
theorem writeObj_eq (m : Mem) (s : VSlice) (val : List UInt8) (addr : Nat) :
    s.writeObj m val addr = s.writeSlice m val addr := rfl
theorem readObj_eq (m : Mem) (s : VSlice) (t : Ty) (addr : Nat) :
    s.readObj m t addr = s.readSlice m t.size addr := rfl

/-! ## §4 `store` / `load` (aligned, atomic access of `size_of::<T>()` bytes) -/

/-- in range and aligned: the first `size_of::<T>()` bytes of the value's image are stored
    at `ofs + addr`, `mark_dirty(addr, size_of::<T>())` goes through the slice's own bitmap -/
theorem store_ok (m : Mem) (s : VSlice) (val : List UInt8) (t : Ty) (addr : Nat)
    (hinv : BmInv m) (hwf : MemWF m) (hin : Inside m s)
    (hfit : addr + t.size ≤ s.size) (hal : (s.addr + addr) % t.align = 0) :
    ∃ m', s.store m val t addr = .ok m' ∧
      Stored m (ofs m s + addr) (val.take t.size) s.bmBase addr t.size m' := by
  unfold VSlice.store
  rw [alignedRef_of (hin.size_lt hwf) hfit hal, Res.bind_ok]
  exact store_sub hinv hin hfit (List.length_take_le _ _) _ _ _

theorem store_misaligned (m : Mem) (s : VSlice) (val : List UInt8) (t : Ty) (addr : Nat)
    (hU : addr + t.size < U) (hfit : addr + t.size ≤ s.size) (hal : (s.addr + addr) % t.align ≠ 0) :
    s.store m val t addr = .err .misaligned := by
  unfold VSlice.store
  rw [C01.alignedRef_err_misaligned s addr t ⟨hU, hfit⟩ hal]; rfl

theorem store_oob (m : Mem) (s : VSlice) (val : List UInt8) (t : Ty) (addr : Nat)
    (hU : addr + t.size < U) (hfit : s.size < addr + t.size) :
    s.store m val t addr = .err .outOfBounds := by
  unfold VSlice.store
  rw [C01.alignedRef_err_oob s addr t hU hfit]; rfl

theorem store_overflow (m : Mem) (s : VSlice) (val : List UInt8) (t : Ty) (addr : Nat)
    (hU : U ≤ addr + t.size) : s.store m val t addr = .err .overflow := by
  unfold VSlice.store
  rw [C01.alignedRef_err_overflow s addr t hU]; rfl

theorem store_outcome (m : Mem) (s : VSlice) (val : List UInt8) (t : Ty) (addr : Nat)
    (hinv : BmInv m) (hwf : MemWF m) (hin : Inside m s) :
    Outcome m id (s.store m val t addr) := by
  cases ha : s.alignedRef addr t with
  | ok p =>
    obtain ⟨-, hfit, hal, -⟩ := alignedRef_ok ha
    exact .of_ok (store_ok m s val t addr hinv hwf hin hfit hal)
  | err e => unfold VSlice.store; rw [ha]; exact .refused e
  | panic => exact absurd ha (alignedRef_ne_panic _ _ _)

/-- `store` succeeds iff the object fits the slice and its address is aligned -/
theorem store_ok_iff (m : Mem) (s : VSlice) (val : List UInt8) (t : Ty) (addr : Nat)
    (hinv : BmInv m) (hwf : MemWF m) (hin : Inside m s) :
    (s.store m val t addr).isOk = true ↔
      addr + t.size ≤ s.size ∧ (s.addr + addr) % t.align = 0 := by
  constructor
  · intro h
    unfold VSlice.store at h
    cases ha : s.alignedRef addr t with
    | ok p => obtain ⟨-, hfit, hal, -⟩ := alignedRef_ok ha; exact ⟨hfit, hal⟩
    | err e => rw [ha] at h; cases h
    | panic => rw [ha] at h; cases h
  · rintro ⟨hfit, hal⟩
    obtain ⟨m', hok, -⟩ := store_ok m s val t addr hinv hwf hin hfit hal
    rw [hok]; rfl

theorem store_no_panic (m : Mem) (s : VSlice) (val : List UInt8) (t : Ty) (addr : Nat)
    (hinv : BmInv m) (hwf : MemWF m) (hin : Inside m s) : s.store m val t addr ≠ .panic :=
  (store_outcome m s val t addr hinv hwf hin).ne_panic

theorem load_ok (m : Mem) (s : VSlice) (t : Ty) (addr : Nat) (hwf : MemWF m) (hin : Inside m s)
    (hfit : addr + t.size ≤ s.size) (hal : (s.addr + addr) % t.align = 0) :
    s.load m t addr = .ok ((m.bytes.drop (ofs m s + addr)).take t.size) := by
  unfold VSlice.load
  rw [alignedRef_of (hin.size_lt hwf) hfit hal, Res.bind_ok]
  exact readAt_sub hin hfit

theorem load_misaligned (m : Mem) (s : VSlice) (t : Ty) (addr : Nat)
    (hU : addr + t.size < U) (hfit : addr + t.size ≤ s.size) (hal : (s.addr + addr) % t.align ≠ 0) :
    s.load m t addr = .err .misaligned := by
  unfold VSlice.load
  rw [C01.alignedRef_err_misaligned s addr t ⟨hU, hfit⟩ hal]; rfl

theorem load_oob (m : Mem) (s : VSlice) (t : Ty) (addr : Nat)
    (hU : addr + t.size < U) (hfit : s.size < addr + t.size) :
    s.load m t addr = .err .outOfBounds := by
  unfold VSlice.load
  rw [C01.alignedRef_err_oob s addr t hU hfit]; rfl

theorem load_overflow (m : Mem) (s : VSlice) (t : Ty) (addr : Nat)
    (hU : U ≤ addr + t.size) : s.load m t addr = .err .overflow := by
  unfold VSlice.load
  rw [C01.alignedRef_err_overflow s addr t hU]; rfl

theorem load_ok_iff (m : Mem) (s : VSlice) (t : Ty) (addr : Nat) (hwf : MemWF m) (hin : Inside m s) :
    (s.load m t addr).isOk = true ↔
      addr + t.size ≤ s.size ∧ (s.addr + addr) % t.align = 0 := by
  constructor
  · intro h
    unfold VSlice.load at h
    cases ha : s.alignedRef addr t with
    | ok p => obtain ⟨-, hfit, hal, -⟩ := alignedRef_ok ha; exact ⟨hfit, hal⟩
    | err e => rw [ha] at h; cases h
    | panic => rw [ha] at h; cases h
  · rintro ⟨hfit, hal⟩
    rw [load_ok m s t addr hwf hin hfit hal]; rfl

theorem load_no_panic (m : Mem) (s : VSlice) (t : Ty) (addr : Nat) (hwf : MemWF m)
    (hin : Inside m s) : s.load m t addr ≠ .panic := by
  cases ha : s.alignedRef addr t with
  | ok p =>
    obtain ⟨-, hfit, hal, -⟩ := alignedRef_ok ha
    rw [load_ok m s t addr hwf hin hfit hal]; nofun
  | err e => unfold VSlice.load; rw [ha]; nofun
  | panic => exact absurd ha (alignedRef_ne_panic _ _ _)

/-! ## §5 `VolatileRef` / `VolatileArrayRef` element access -/

/-- `VolatileRef::store`: the `size_of::<T>()` bytes at the reference, `mark_dirty(0, size)` -/
theorem ref_store_ok (m : Mem) (r : VRef) (val : List UInt8) (hinv : BmInv m)
    (hin : Inside m r.toSlice) :
    ∃ m', r.store m val = .ok m' ∧
      Stored m (r.addr - m.base) (val.take r.ty.size) r.bmBase 0 r.ty.size m' :=
  store_win hinv hin (List.length_take_le _ _) _ _ _

theorem ref_load_ok (m : Mem) (r : VRef) (hin : Inside m r.toSlice) :
    r.load m = .ok ((m.bytes.drop (r.addr - m.base)).take r.ty.size) :=
  readAt_ok _ _ _ hin

/-- a reference obtained by `get_ref` designates the bytes `[ofs + off, ofs + off + size)` -/
theorem getRef_inside {m : Mem} {s : VSlice} {r : VRef} {off : Nat} {t : Ty}
    (hin : Inside m s) (h : s.getRef off t = .ok r) :
    Inside m r.toSlice ∧ r.addr - m.base = ofs m s + off ∧ r.ty = t := by
  obtain ⟨⟨-, hle⟩, rfl⟩ := checked_eq_ok.1 (getRef_checked s off t ▸ h)
  exact ⟨Win.sub hin hle, Win.ofs hin off, rfl⟩

theorem getArrayRef_inside {m : Mem} {s : VSlice} {a : VArr} {off n : Nat} {t : Ty}
    (hin : Inside m s) (h : s.getArrayRef off n t = .ok a) :
    AInside m a ∧ a.addr - m.base = ofs m s + off ∧ a.ty = t ∧ a.nelem = n := by
  rw [getArrayRef_checked] at h
  split at h
  · obtain ⟨⟨-, hle⟩, rfl⟩ := checked_eq_ok.1 h
    exact ⟨Win.sub hin hle, Win.ofs hin off, rfl, rfl⟩
  · cases h

theorem elem_lt_U {sz i n : Nat} (hi : i < n) (hlt : n * sz < U) : sz * i < U := by
  have := @elem_ofs_le sz i n hi
  omega

/-- element `i` of an in-container array designates `[o + size*i, o + size*i + size)` -/
theorem refAt_inside {m : Mem} {a : VArr} (hwf : MemWF m) (hin : AInside m a) {i : Nat}
    (hi : i < a.nelem) :
    ∃ r, a.refAt i = .ok r ∧ Inside m r.toSlice ∧
      r.addr - m.base = a.addr - m.base + a.ty.size * i ∧ r.ty = a.ty ∧
      r.bmBase = sliceAt a.bmBase (a.ty.size * i) := by
  have hlt : a.ty.size * i < U :=
    Nat.lt_of_le_of_lt (Nat.le_trans (elem_ofs_le hi) (Win.le_length hin)) hwf.len_lt
  refine ⟨_, by rw [refAt_eq, if_pos hi, if_pos hlt], ?_, ?_, rfl, rfl⟩
  · exact Win.sub hin (elem_end_le hi)
  · exact Win.ofs hin _

/-- `VolatileArrayRef::store(i, v)`, `i < nelem`: element `i`, nothing else -/
theorem arr_store_ok (m : Mem) (a : VArr) (i : Nat) (val : List UInt8) (hinv : BmInv m)
    (hwf : MemWF m) (hin : AInside m a) (hi : i < a.nelem) :
    ∃ m', a.store m i val = .ok m' ∧
      Stored m (a.addr - m.base + a.ty.size * i) (val.take a.ty.size)
        (sliceAt a.bmBase (a.ty.size * i)) 0 a.ty.size m' := by
  obtain ⟨r, hr, hrin, hro, hrt, hrb⟩ := refAt_inside hwf hin hi
  obtain ⟨m', hok, hst⟩ := ref_store_ok m r val hinv hrin
  refine ⟨m', ?_, ?_⟩
  · unfold VArr.store; rw [hr, Res.bind_ok]; exact hok
  · rw [hro, hrt, hrb] at hst; exact hst

theorem arr_load_ok (m : Mem) (a : VArr) (i : Nat) (hwf : MemWF m) (hin : AInside m a)
    (hi : i < a.nelem) :
    a.load m i = .ok ((m.bytes.drop (a.addr - m.base + a.ty.size * i)).take a.ty.size) := by
  obtain ⟨r, hr, hrin, hro, hrt, _⟩ := refAt_inside hwf hin hi
  unfold VArr.load
  rw [hr, Res.bind_ok, ref_load_ok m r hrin, hro, hrt]

/-- `assert!(index < self.nelem)` -/
theorem arr_store_index (m : Mem) (a : VArr) (i : Nat) (val : List UInt8) (hi : a.nelem ≤ i) :
    a.store m i val = .panic := by
  unfold VArr.store
  rw [refAt_eq, if_neg (Nat.not_lt.2 hi)]; rfl

theorem arr_load_index (m : Mem) (a : VArr) (i : Nat) (hi : a.nelem ≤ i) : a.load m i = .panic := by
  unfold VArr.load
  rw [refAt_eq, if_neg (Nat.not_lt.2 hi)]; rfl

/-- element access panics iff the index assertion fails -/
theorem arr_store_panic_iff (m : Mem) (a : VArr) (i : Nat) (val : List UInt8) (hinv : BmInv m)
    (hwf : MemWF m) (hin : AInside m a) : a.store m i val = .panic ↔ a.nelem ≤ i := by
  refine ⟨fun h => Nat.le_of_not_lt fun hi => ?_, arr_store_index m a i val⟩
  obtain ⟨m', hok, _⟩ := arr_store_ok m a i val hinv hwf hin hi
  rw [hok] at h; cases h

theorem arr_load_panic_iff (m : Mem) (a : VArr) (i : Nat) (hwf : MemWF m) (hin : AInside m a) :
    a.load m i = .panic ↔ a.nelem ≤ i := by
  refine ⟨fun h => Nat.le_of_not_lt fun hi => ?_, arr_load_index m a i⟩
  rw [arr_load_ok m a i hwf hin hi] at h; cases h

/-! ## §6 bulk element copies: `VolatileArrayRef::copy_to / copy_from` -/

theorem min_mul_le (blen : Nat) (a : VArr) : min blen a.nelem * a.ty.size ≤ a.nelem * a.ty.size :=
  Nat.mul_le_mul_right _ (Nat.min_le_right _ _)

/-- `copy_to(buf)`: `min(buf.len(), nelem)` whole elements, i.e. the first
    `count * size_of::<T>()` bytes of the array, in order; the count is reported.
    One statement for the byte fast path and the element loop. -/
theorem arr_copyTo_ok (m : Mem) (a : VArr) (blen : Nat) (hwf : MemWF m) (hin : AInside m a) :
    a.copyTo m blen =
      .ok (min blen a.nelem, (m.bytes.drop (a.addr - m.base)).take (min blen a.nelem * a.ty.size)) := by
  have hr := readAt_win hin (min_mul_le blen a)
  unfold VArr.copyTo
  by_cases hs : a.ty.size = 1
  · rw [if_pos hs, arrToSlice_eq, if_pos (Nat.lt_of_le_of_lt (Win.le_length hin) hwf.len_lt),
      Res.bind_ok]
    simp only [hs, Nat.mul_one] at hr ⊢
    show (m.readAt a.addr (min blen a.nelem) >>= _) = _
    rw [hr]; rfl
  · rw [if_neg hs]
    show (m.readAt a.addr (min blen a.nelem * a.ty.size) >>= _) = _
    rw [hr]; rfl

/-- `copy_from(buf)`: the first `count * size_of::<T>()` bytes of the buffer image are
    stored at the start of the array; `mark_dirty(0, count * size)` -/
theorem arr_copyFrom_ok (m : Mem) (a : VArr) (blen : Nat) (buf : List UInt8) (hinv : BmInv m)
    (hwf : MemWF m) (hin : AInside m a) :
    ∃ m', a.copyFrom m blen buf = .ok m' ∧
      Stored m (a.addr - m.base) (buf.take (min blen a.nelem * a.ty.size)) a.bmBase 0
        (min blen a.nelem * a.ty.size) m' := by
  have hk := min_mul_le blen a
  unfold VArr.copyFrom
  by_cases hs : a.ty.size = 1
  · rw [if_pos hs, arrToSlice_eq, if_pos (Nat.lt_of_le_of_lt (Win.le_length hin) hwf.len_lt),
      Res.bind_ok]
    obtain ⟨m', hok, hst⟩ := copyToVolatileSlice_sub (o := 0) hinv hin
      (by rw [Nat.zero_add]; exact hk) a.bmBase a.nelem buf
    simp only [hs, Nat.mul_one, Nat.add_zero] at hok hst ⊢
    exact ⟨m', by rw [hok]; rfl, hst⟩
  · rw [if_neg hs]
    exact store_win hinv hin (Nat.le_trans (List.length_take_le _ _) hk) _ _ _

/-- the number of elements and bytes an array copy moves -/
theorem arr_copyTo_count (m : Mem) (a : VArr) (blen : Nat) (hwf : MemWF m) (hin : AInside m a) :
    ∃ d, a.copyTo m blen = .ok (min blen a.nelem, d) ∧ d.length = min blen a.nelem * a.ty.size :=
  ⟨_, arr_copyTo_ok m a blen hwf hin,
    Win.take_length hin (o := 0) (by rw [Nat.zero_add]; exact min_mul_le blen a)⟩

/-! ## §7 `VolatileSlice::copy_to / copy_from::<T>` -/

theorem elemCount_one (s : VSlice) (t : Ty) (blen : Nat) (h : t.size = 1) :
    s.elemCount t blen = s.size := by
  unfold VSlice.elemCount; rw [h, if_neg Nat.one_ne_zero, Nat.div_one]

theorem elemCount_pos (s : VSlice) (t : Ty) (blen : Nat) (h : t.size ≠ 0) :
    s.elemCount t blen = s.size / t.size := if_neg h

theorem elemCount_zero (s : VSlice) (t : Ty) (blen : Nat) (h : t.size = 0) :
    s.elemCount t blen = blen := if_pos h

/-- the elements counted fit the slice -/
theorem elemCount_mul_le (s : VSlice) (t : Ty) (blen : Nat) :
    s.elemCount t blen * t.size ≤ s.size := by
  unfold VSlice.elemCount
  split
  · rename_i h; rw [h, Nat.mul_zero]; exact Nat.zero_le _
  · exact Nat.div_mul_le_self _ _

/-- the array view `copy_to / copy_from::<T>` unwrap: it exists (no panic) whenever the
    slice length is an `isize` value and, for a zero-sized `T`, so is `buf.len()` -/
theorem elem_array (s : VSlice) (t : Ty) (blen : Nat) (hsz : s.size ≤ ISIZE_MAX)
    (hb : t.size = 0 → blen ≤ ISIZE_MAX) :
    Res.unwrapRes (s.getArrayRef 0 (s.elemCount t blen) t) =
      .ok { addr := s.addr + 0, nelem := s.elemCount t blen, bmBase := sliceAt s.bmBase 0, ty := t } := by
  have hm := elemCount_mul_le s t blen
  have hI := ISIZE_MAX_lt_U
  have hc : s.elemCount t blen ≤ ISIZE_MAX := by
    by_cases h : t.size = 0
    · rw [elemCount_zero s t blen h]; exact hb h
    · rw [elemCount_pos s t blen h]
      exact Nat.le_trans (Nat.div_le_self _ _) hsz
  rw [getArrayRef_checked, if_pos ⟨hc, by omega⟩, checked_ok (by omega) (by omega)]
  rfl

theorem elem_array_inside {m : Mem} {s : VSlice} (hin : Inside m s) (t : Ty) (blen : Nat) :
    AInside m { addr := s.addr + 0, nelem := s.elemCount t blen, bmBase := sliceAt s.bmBase 0, ty := t } :=
  Win.sub hin (by rw [Nat.zero_add]; exact elemCount_mul_le s t blen)

/-- `copy_to::<T>(buf)`: `count = min(buf.len(), elemCount)` elements — for a one-byte `T`
    `min(buf.len(), size)`, for `size_of::<T>() ≥ 2` `min(buf.len(), size / size_of::<T>())`,
    for a zero-sized `T` all of `buf.len()` — i.e. the first `count * size_of::<T>()` bytes of
    the slice, in order.  Never a panic. -/
theorem copyTo_ok (m : Mem) (s : VSlice) (t : Ty) (blen : Nat) (hwf : MemWF m) (hin : Inside m s)
    (hsz : s.size ≤ ISIZE_MAX) (hb : t.size = 0 → blen ≤ ISIZE_MAX) :
    s.copyTo m t blen =
      .ok (min blen (s.elemCount t blen),
           (m.bytes.drop (ofs m s)).take (min blen (s.elemCount t blen) * t.size)) := by
  unfold VSlice.copyTo
  by_cases hs : t.size = 1
  · rw [if_pos hs, elemCount_one s t blen hs, hs, Nat.mul_one]
    show (m.readAt s.addr (min blen s.size) >>= _) = _
    rw [readAt_win hin (Nat.min_le_right _ _)]; rfl
  · rw [if_neg hs, elem_array s t blen hsz hb, Res.bind_ok,
      arr_copyTo_ok m _ blen hwf (elem_array_inside hin t blen)]
    rfl

/-- `copy_from::<T>(buf)`: the first `count * size_of::<T>()` bytes of the buffer image are
    stored at the start of the slice and marked -/
theorem copyFrom_ok (m : Mem) (s : VSlice) (t : Ty) (blen : Nat) (buf : List UInt8)
    (hinv : BmInv m) (hwf : MemWF m) (hin : Inside m s)
    (hsz : s.size ≤ ISIZE_MAX) (hb : t.size = 0 → blen ≤ ISIZE_MAX) :
    ∃ m', s.copyFrom m t blen buf = .ok m' ∧
      Stored m (ofs m s) (buf.take (min blen (s.elemCount t blen) * t.size)) s.bmBase 0
        (min blen (s.elemCount t blen) * t.size) m' := by
  unfold VSlice.copyFrom
  by_cases hs : t.size = 1
  · rw [if_pos hs, elemCount_one s t blen hs, hs, Nat.mul_one]
    obtain ⟨m', hok, hst⟩ := copyToVolatileSlice_sub (o := 0) hinv hin
      (by rw [Nat.zero_add]; exact Nat.min_le_right blen s.size) s.bmBase s.size buf
    rw [Nat.add_zero] at hok hst
    exact ⟨m', by show (copyToVolatileSlice m s buf _ >>= _) = _; rw [hok]; rfl, hst⟩
  · rw [if_neg hs, elem_array s t blen hsz hb, Res.bind_ok]
    obtain ⟨m', hok, hst⟩ := arr_copyFrom_ok m _ blen buf hinv hwf (elem_array_inside hin t blen)
    exact ⟨m', hok, hst.congr_mark (mark_sliceAt_zero m _ _ _).symm⟩

/-- without the `isize` bound on a zero-sized-element buffer the `.unwrap()` fires -/
theorem copyTo_zst_too_big (m : Mem) (s : VSlice) (t : Ty) (blen : Nat) (h0 : t.size = 0)
    (hb : ISIZE_MAX < blen) : s.copyTo m t blen = .panic := by
  unfold VSlice.copyTo
  rw [if_neg (by rw [h0]; exact Nat.zero_ne_one), elemCount_zero s t blen h0, getArrayRef_checked,
    if_neg (fun h => Nat.not_le.2 hb h.1)]
  rfl

/-! ## §8 slice-to-slice copies (`ptr::copy`, memmove semantics) -/

/-- `copy_to_volatile_slice(dst)`: `count = min(self.size, dst.size)` bytes; what is stored
    at `dst` is what the source held in the ORIGINAL container (overlap-safe), in order -/
theorem copyToSlice_ok (m : Mem) (s dst : VSlice) (hinv : BmInv m) (hin : Inside m s)
    (hdst : Inside m dst) :
    ∃ m', s.copyToSlice m dst = .ok m' ∧
      Stored m (ofs m dst) ((m.bytes.drop (ofs m s)).take (min s.size dst.size)) dst.bmBase 0
        (min s.size dst.size) m' := by
  show ∃ m', (m.readAt s.addr (min s.size dst.size) >>= _) = _ ∧ _
  rw [readAt_win hin (Nat.min_le_left _ _), Res.bind_ok]
  exact store_win hinv hdst
    (Nat.le_trans (List.length_take_le _ _) (Nat.min_le_right _ _)) _ _ _

/-- `VolatileArrayRef::copy_to_volatile_slice(dst)` -/
theorem arr_copyToSlice_ok (m : Mem) (a : VArr) (dst : VSlice) (hinv : BmInv m) (hwf : MemWF m)
    (hin : AInside m a) (hdst : Inside m dst) :
    ∃ m', a.copyToSlice m dst = .ok m' ∧
      Stored m (ofs m dst) ((m.bytes.drop (a.addr - m.base)).take (min (a.nelem * a.ty.size) dst.size))
        dst.bmBase 0 (min (a.nelem * a.ty.size) dst.size) m' := by
  unfold VArr.copyToSlice
  rw [mulP_of_lt (Nat.lt_of_le_of_lt (Win.le_length hin) hwf.len_lt), Res.bind_ok]
  exact copyToSlice_ok m ⟨a.addr, a.nelem * a.ty.size, a.bmBase⟩ dst hinv hin hdst

/-- a slice copied onto itself changes no byte -/
theorem copyToSlice_self_bytes (m : Mem) (s : VSlice) (hinv : BmInv m) (hin : Inside m s) :
    ∃ m', s.copyToSlice m s = .ok m' ∧ m'.bytes = m.bytes := by
  obtain ⟨m', hok, hst⟩ := copyToSlice_ok m s s hinv hin hin
  refine ⟨m', hok, ?_⟩
  rw [hst.bytes, Nat.min_self]
  exact splice_self _ _ _ hin.window

/-! ## §9 frame: every mutating operation changes only its window

  Every mutating operation above concludes `Stored m w d … m'`, hence
  `Stored.frame`, `Stored.window`, `Stored.length_eq`, `Stored.base` apply to it. The
  schema, spelled out once for the property's wording: -/

/-- bytes outside the addressed window are unchanged; the window holds the data in
    address order; length and base are unchanged -/
theorem frame {m m' : Mem} {w : Nat} {d : List UInt8} {b o l : Nat} (h : Stored m w d b o l m') :
    (∀ i, i < w ∨ w + d.length ≤ i → m'.bytes[i]? = m.bytes[i]?) ∧
    (∀ i, i < d.length → m'.bytes[w + i]? = d[i]?) ∧
    m'.bytes.length = m.bytes.length ∧ m'.base = m.base :=
  ⟨h.frame, h.window, h.length_eq, h.base⟩

/-- e.g. for `write`: nothing outside `[ofs + addr, ofs + addr + n)` changes -/
theorem write_frame (m : Mem) (s : VSlice) (buf : List UInt8) (addr : Nat)
    (hinv : BmInv m) (hwf : MemWF m) (hin : Inside m s) (hne : buf ≠ []) (h : addr < s.size) :
    ∃ m' n, s.write m buf addr = .ok (m', n) ∧ n = min buf.length (s.size - addr) ∧
      (∀ i, i < ofs m s + addr ∨ ofs m s + addr + n ≤ i → m'.bytes[i]? = m.bytes[i]?) ∧
      (∀ i, i < n → m'.bytes[ofs m s + addr + i]? = buf[i]?) ∧
      m'.bytes.length = m.bytes.length ∧ m'.base = m.base := by
  obtain ⟨m', hok, hst⟩ := write_ok m s buf addr hinv hwf hin hne h
  have hl : (buf.take (min buf.length (s.size - addr))).length = min buf.length (s.size - addr) :=
    List.length_take_of_le (Nat.min_le_left _ _)
  exact ⟨m', _, hok, rfl, fun i hi => hst.frame i (hl.symm ▸ hi),
    fun i hi => by rw [hst.window i (hl.symm ▸ hi), List.getElem?_take, if_pos hi],
    hst.length_eq, hst.base⟩

/-- no write through a slice touches a byte outside that slice -/
theorem write_confined (m : Mem) (s : VSlice) (buf : List UInt8) (addr : Nat)
    (hinv : BmInv m) (hwf : MemWF m) (hin : Inside m s) (hne : buf ≠ []) (h : addr < s.size) :
    ∃ m' n, s.write m buf addr = .ok (m', n) ∧
      ∀ i, i < ofs m s ∨ ofs m s + s.size ≤ i → m'.bytes[i]? = m.bytes[i]? := by
  obtain ⟨m', n, hok, hn, hfr, _⟩ := write_frame m s buf addr hinv hwf hin hne h
  replace hn : addr + n ≤ s.size := hn ▸ cut_fits h _
  exact ⟨m', n, hok, fun i hi => hfr i (by omega)⟩

/-! ## §10 all routes observe the same memory -/

/-- the raw statement: if `m'` holds `d` at window `w`, a raw read of that window is `d` -/
theorem routes_agree {m m' : Mem} {w : Nat} {d : List UInt8}
    (hb : m'.bytes = splice m.bytes w d) (hbase : m'.base = m.base)
    (hw : w + d.length ≤ m.bytes.length) : m'.readAt (m.base + w) d.length = .ok d :=
  readAt_of_splice hb hbase hw

theorem routes_agree_disjoint {m m' : Mem} {w : Nat} {d : List UInt8}
    (hb : m'.bytes = splice m.bytes w d) (hbase : m'.base = m.base)
    (hw : w + d.length ≤ m.bytes.length) (w' n : Nat) (hw' : w' + n ≤ m.bytes.length)
    (hd : w' + n ≤ w ∨ w + d.length ≤ w') :
    m'.readAt (m.base + w') n = m.readAt (m.base + w') n :=
  readAt_of_splice_disjoint hb hbase hw w' n hw' hd

section sees
variable {m m' : Mem} {w : Nat} {d : List UInt8} {b o l : Nat}

/-- whatever operation stored `d` at window `w` (`hst`), `read` through ANY slice whose
    addressed window is `[w, w + d.length)` returns `d` -/
theorem read_sees (hst : Stored m w d b o l m') (hwf : MemWF m) (s : VSlice) (addr : Nat)
    (hin : Inside m s) (hpos : 0 < d.length) (hw : ofs m s + addr = w)
    (hfit : addr + d.length ≤ s.size) : s.read m' d.length addr = .ok d := by
  rw [read_fit m' s d.length addr (hst.memWF hwf) (hst.inside hin) hpos hfit, hst.ofs_eq, hw,
    hst.readback]

theorem readSlice_sees (hst : Stored m w d b o l m') (hwf : MemWF m) (s : VSlice) (addr : Nat)
    (hin : Inside m s) (hpos : 0 < d.length) (hw : ofs m s + addr = w)
    (hfit : addr + d.length ≤ s.size) : s.readSlice m' d.length addr = .ok d := by
  have h : addr < s.size := Nat.lt_of_lt_of_le (Nat.lt_add_of_pos_right hpos) hfit
  rw [readSlice_full m' s d.length addr (hst.memWF hwf) (hst.inside hin) hpos h
    (Nat.le_sub_of_add_le' hfit), hst.ofs_eq, hw, hst.readback]

theorem readObj_sees (hst : Stored m w d b o l m') (hwf : MemWF m) (s : VSlice) (t : Ty) (addr : Nat)
    (hin : Inside m s) (hpos : 0 < d.length) (ht : t.size = d.length) (hw : ofs m s + addr = w)
    (hfit : addr + d.length ≤ s.size) : s.readObj m' t addr = .ok d := by
  rw [readObj_eq, ht]; exact readSlice_sees hst hwf s addr hin hpos hw hfit

/-- … so does an aligned `load` … -/
theorem load_sees (hst : Stored m w d b o l m') (hwf : MemWF m) (s : VSlice) (t : Ty) (addr : Nat)
    (hin : Inside m s) (ht : t.size = d.length) (hw : ofs m s + addr = w)
    (hfit : addr + t.size ≤ s.size) (hal : (s.addr + addr) % t.align = 0) :
    s.load m' t addr = .ok d := by
  rw [load_ok m' s t addr (hst.memWF hwf) (hst.inside hin) hfit hal, hst.ofs_eq, hw, ht, hst.readback]

/-- … a `VolatileRef::load` … -/
theorem ref_load_sees (hst : Stored m w d b o l m') (r : VRef)
    (hin : Inside m r.toSlice) (ht : r.ty.size = d.length) (hw : r.addr - m.base = w) :
    r.load m' = .ok d := by
  rw [ref_load_ok m' r (hst.inside hin), hst.base, hw, ht, hst.readback]

/-- … a `VolatileArrayRef::load(i)` … -/
theorem arr_load_sees (hst : Stored m w d b o l m') (hwf : MemWF m) (a : VArr) (i : Nat)
    (hin : AInside m a) (hi : i < a.nelem) (ht : a.ty.size = d.length)
    (hw : a.addr - m.base + a.ty.size * i = w) : a.load m' i = .ok d := by
  rw [arr_load_ok m' a i (hst.memWF hwf) (hst.ainside hin) hi, hst.base, hw, ht, hst.readback]

/-- … a bulk `copy_to` of an array covering exactly the window … -/
theorem arr_copyTo_sees (hst : Stored m w d b o l m') (hwf : MemWF m) (a : VArr) (blen : Nat)
    (hin : AInside m a) (hw : a.addr - m.base = w)
    (hn : min blen a.nelem * a.ty.size = d.length) :
    a.copyTo m' blen = .ok (min blen a.nelem, d) := by
  rw [arr_copyTo_ok m' a blen (hst.memWF hwf) (hst.ainside hin), hst.base, hw, hn, hst.readback]

/-- … and a read of a window disjoint from `w` sees what was there before -/
theorem read_unaffected (hst : Stored m w d b o l m') (hwf : MemWF m) (s : VSlice) (len addr : Nat)
    (hin : Inside m s) (hd : ofs m s + s.size ≤ w ∨ w + d.length ≤ ofs m s + addr) :
    s.read m' len addr = s.read m len addr := by
  rcases Nat.eq_zero_or_pos len with rfl | h0
  · rfl
  · by_cases h : addr < s.size
    · have hc : ofs m s + addr + min len (s.size - addr) ≤ ofs m s + s.size :=
        Nat.add_assoc .. ▸ Nat.add_le_add_left (cut_fits h len) _
      rw [read_ok m' s len addr (hst.memWF hwf) (hst.inside hin) h0 h,
        read_ok m s len addr hwf hin h0 h, hst.ofs_eq,
        hst.readback_disjoint _ _ (hd.imp_left (Nat.le_trans hc))]
    · rw [read_oob m' s len addr h0 (Nat.le_of_not_lt h), read_oob m s len addr h0 (Nat.le_of_not_lt h)]
end sees

/-- element `i` of the array `get_array_ref(addr, n)` hands out is what `read` returns at the
    element's offset — in any container, whether or not anything was stored -/
theorem arr_load_eq_read (m : Mem) (s : VSlice) (hwf : MemWF m) (hin : Inside m s) {a : VArr}
    {addr n i : Nat} {t : Ty} (hpos : 0 < t.size) (ha : s.getArrayRef addr n t = .ok a) (hi : i < n) :
    a.load m i = s.read m t.size (addr + t.size * i) := by
  obtain ⟨hain, hao, hat, han⟩ := getArrayRef_inside hin ha
  have hle : addr + a.nelem * a.ty.size ≤ s.size := by
    rw [han, hat]; exact (getArrayRef_ok ha).2.2.2.1
  rw [← han] at hi
  rw [arr_load_ok m a i hwf hain hi, hao, hat,
    read_fit m s t.size (addr + t.size * i) hwf hin hpos
      (by rw [← hat, Nat.add_assoc]; exact Nat.le_trans (Nat.add_le_add_left (elem_end_le hi) _) hle),
    Nat.add_assoc]

/-- a value stored through `store` is the value seen by `load`, by `read`/`read_obj` at
    the same offset and by a `VolatileRef` obtained from `get_ref`; element `i` of an array from
    `get_array_ref` is what `read` returns at the element's offset -/
theorem store_then_all_routes (m m' : Mem) (s : VSlice) (val : List UInt8) (t : Ty) (addr : Nat)
    (hinv : BmInv m) (hwf : MemWF m) (hin : Inside m s) (hval : t.size ≤ val.length)
    (hpos : 0 < t.size) (h : s.store m val t addr = .ok m') :
    s.load m' t addr = .ok (val.take t.size) ∧
    s.read m' t.size addr = .ok (val.take t.size) ∧
    s.readObj m' t addr = .ok (val.take t.size) ∧
    (∀ r, s.getRef addr t = .ok r → r.load m' = .ok (val.take t.size)) ∧
    (∀ a n i, s.getArrayRef addr n t = .ok a → i < n →
      a.load m' i = (s.read m' t.size (addr + t.size * i))) := by
  obtain ⟨hfit, hal⟩ := (store_ok_iff m s val t addr hinv hwf hin).1 (by rw [h]; rfl)
  obtain ⟨m'', hok, hst⟩ := store_ok m s val t addr hinv hwf hin hfit hal
  rw [h] at hok; cases hok
  have hl : (val.take t.size).length = t.size := List.length_take_of_le hval
  have hpos' : 0 < (val.take t.size).length := by rw [hl]; exact hpos
  have hfit' : addr + (val.take t.size).length ≤ s.size := by rw [hl]; exact hfit
  refine ⟨?_, ?_, ?_, ?_, ?_⟩
  · exact load_sees hst hwf s t addr hin hl.symm rfl hfit hal
  · have := read_sees hst hwf s addr hin hpos' rfl hfit'
    rw [hl] at this; exact this
  · exact readObj_sees hst hwf s t addr hin hpos' hl.symm rfl hfit'
  · intro r hr
    obtain ⟨hrin, hro, hrt⟩ := getRef_inside hin hr
    exact ref_load_sees hst r hrin (by rw [hrt, hl]) hro
  · intro a n i ha hi
    exact arr_load_eq_read m' s (hst.memWF hwf) (hst.inside hin) hpos ha hi

/-- what `write` stores, `read` at the same offset returns (same count) -/
theorem write_then_read (m m' : Mem) (s : VSlice) (buf : List UInt8) (addr n : Nat)
    (hinv : BmInv m) (hwf : MemWF m) (hin : Inside m s) (hne : buf ≠ [])
    (h : s.write m buf addr = .ok (m', n)) :
    n = min buf.length (s.size - addr) ∧ 0 < n ∧ s.read m' buf.length addr = .ok (buf.take n) := by
  have hlt : addr < s.size := Nat.lt_of_not_le fun hle => by
    rw [write_oob m s buf addr hne hle] at h; cases h
  obtain ⟨m'', hok, hst⟩ := write_ok m s buf addr hinv hwf hin hne hlt
  rw [h] at hok; cases hok
  have hpos : 0 < buf.length := List.length_pos_iff.2 hne
  have hl : (buf.take (min buf.length (s.size - addr))).length = min buf.length (s.size - addr) :=
    List.length_take_of_le (Nat.min_le_left _ _)
  refine ⟨rfl, Nat.lt_min.2 ⟨hpos, Nat.sub_pos_of_lt hlt⟩, ?_⟩
  rw [read_ok m' s buf.length addr (hst.memWF hwf) (hst.inside hin) hpos hlt, hst.ofs_eq]
  have := hst.readback
  rw [hl] at this; rw [this]

/-! ## §11 histories -/

/-- the mutating operations -/
inductive WOp
  | write (s : VSlice) (buf : List UInt8) (addr : Nat)
  | writeSlice (s : VSlice) (buf : List UInt8) (addr : Nat)
  | store (s : VSlice) (val : List UInt8) (t : Ty) (addr : Nat)
  | refStore (r : VRef) (val : List UInt8)
  | arrStore (a : VArr) (i : Nat) (val : List UInt8)
  | arrCopyFrom (a : VArr) (blen : Nat) (buf : List UInt8)
  | copyFrom (s : VSlice) (t : Ty) (blen : Nat) (buf : List UInt8)
  | copyToSlice (s dst : VSlice)
  | arrCopyToSlice (a : VArr) (dst : VSlice)

/-- the container after a call: an `Err` return leaves it as it was (except
    `write_slice`, which keeps the stored prefix), a panic ends the history -/
def keep {α} (m : Mem) (f : α → Mem) : Res α → Res Mem
  | .ok a => .ok (f a)
  | .err _ => .ok m
  | .panic => .panic

/-- the container `write_slice` leaves behind (it keeps a stored prefix on `PartialBuffer`) -/
def afterSlice : Mem × Res Unit → Res Mem
  | (_, .panic) => .panic
  | (m', _) => .ok m'

def step (m : Mem) : WOp → Res Mem
  | .write s buf addr => keep m Prod.fst (s.write m buf addr)
  | .writeSlice s buf addr => afterSlice (s.writeSlice m buf addr)
  | .store s val t addr => keep m id (s.store m val t addr)
  | .refStore r val => keep m id (r.store m val)
  | .arrStore a i val => keep m id (a.store m i val)
  | .arrCopyFrom a blen buf => keep m id (a.copyFrom m blen buf)
  | .copyFrom s t blen buf => keep m id (s.copyFrom m t blen buf)
  | .copyToSlice s dst => keep m id (s.copyToSlice m dst)
  | .arrCopyToSlice a dst => keep m id (a.copyToSlice m dst)

def run (m : Mem) : List WOp → Res Mem
  | [] => .ok m
  | op :: ops => step m op >>= fun m' => run m' ops

/-- the accessor(s) of the operation lie inside a container with this base and length
    (what C01 proves of every accessor derived from the container's root), the element
    index is in range, and sizes are `isize` values -/
def WOp.Valid (base len : Nat) : WOp → Prop
  | .write s _ _ | .writeSlice s _ _ | .store s _ _ _ =>
      base ≤ s.addr ∧ s.addr + s.size ≤ base + len
  | .refStore r _ => base ≤ r.addr ∧ r.addr + r.ty.size ≤ base + len
  | .arrStore a i _ => (base ≤ a.addr ∧ a.addr + a.nelem * a.ty.size ≤ base + len) ∧ i < a.nelem
  | .arrCopyFrom a _ _ => base ≤ a.addr ∧ a.addr + a.nelem * a.ty.size ≤ base + len
  | .copyFrom s t blen _ =>
      (base ≤ s.addr ∧ s.addr + s.size ≤ base + len) ∧ s.size ≤ ISIZE_MAX ∧
        (t.size = 0 → blen ≤ ISIZE_MAX)
  | .copyToSlice s dst =>
      (base ≤ s.addr ∧ s.addr + s.size ≤ base + len) ∧
        (base ≤ dst.addr ∧ dst.addr + dst.size ≤ base + len)
  | .arrCopyToSlice a dst =>
      (base ≤ a.addr ∧ a.addr + a.nelem * a.ty.size ≤ base + len) ∧
        (base ≤ dst.addr ∧ dst.addr + dst.size ≤ base + len)

theorem keep_same {m : Mem} (hinv : BmInv m) (hwf : MemWF m) {x : Res Mem}
    (hx : x ≠ .panic) (hok : ∀ m', x = .ok m' → Same m m') :
    ∃ m', keep m id x = .ok m' ∧ Same m m' := by
  cases x with
  | ok a => exact ⟨a, rfl, hok a rfl⟩
  | err e => exact ⟨m, rfl, Same.refl hinv hwf⟩
  | panic => exact absurd rfl hx

theorem Outcome.keep {α : Type} {m : Mem} {f : α → Mem} {x : Res α} (h : Outcome m f x)
    (hinv : BmInv m) (hwf : MemWF m) : ∃ m', keep m f x = .ok m' ∧ Same m m' := by
  cases h with
  | refused e => exact ⟨m, rfl, Same.refl hinv hwf⟩
  | stored hst => exact ⟨_, rfl, hst.same hwf⟩

theorem afterSlice_writeSlice (m : Mem) (s : VSlice) (buf : List UInt8) (addr : Nat) :
    afterSlice (s.writeSlice m buf addr) = keep m Prod.fst (s.write m buf addr) := by
  unfold VSlice.writeSlice
  cases s.write m buf addr with
  | ok p => dsimp only; split <;> rfl
  | err e => rfl
  | panic => rfl

/-- **every mutating operation, valid or failing with an error, keeps base, length,
    `BmInv` and `MemWF`, and does not panic** -/
theorem step_preserves (m : Mem) (op : WOp) (hinv : BmInv m) (hwf : MemWF m)
    (hv : op.Valid m.base m.bytes.length) : ∃ m', step m op = .ok m' ∧ Same m m' := by
  cases op with
  | write s buf addr => exact (write_outcome m s buf addr hinv hwf hv).keep hinv hwf
  | writeSlice s buf addr =>
    show ∃ m', afterSlice (s.writeSlice m buf addr) = .ok m' ∧ _
    rw [afterSlice_writeSlice]
    exact (write_outcome m s buf addr hinv hwf hv).keep hinv hwf
  | store s val t addr => exact (store_outcome m s val t addr hinv hwf hv).keep hinv hwf
  | refStore r val => exact (Outcome.of_ok (ref_store_ok m r val hinv hv)).keep hinv hwf
  | arrStore a i val =>
    exact (Outcome.of_ok (arr_store_ok m a i val hinv hwf hv.1 hv.2)).keep hinv hwf
  | arrCopyFrom a blen buf =>
    exact (Outcome.of_ok (arr_copyFrom_ok m a blen buf hinv hwf hv)).keep hinv hwf
  | copyFrom s t blen buf =>
    exact (Outcome.of_ok (copyFrom_ok m s t blen buf hinv hwf hv.1 hv.2.1 hv.2.2)).keep hinv hwf
  | copyToSlice s dst => exact (Outcome.of_ok (copyToSlice_ok m s dst hinv hv.1 hv.2)).keep hinv hwf
  | arrCopyToSlice a dst =>
    exact (Outcome.of_ok (arr_copyToSlice_ok m a dst hinv hwf hv.1 hv.2)).keep hinv hwf

/-- **histories**: any sequence of mutating operations through accessors of the
    container runs to completion without a panic and keeps base address, length, the
    bitmap invariant and well-formedness — so every theorem of this file applies again
    after any history. -/
theorem history (m : Mem) (ops : List WOp) (hinv : BmInv m) (hwf : MemWF m)
    (hv : ∀ op ∈ ops, op.Valid m.base m.bytes.length) : ∃ m', run m ops = .ok m' ∧ Same m m' := by
  induction ops generalizing m with
  | nil => exact ⟨m, rfl, Same.refl hinv hwf⟩
  | cons op ops ih =>
    obtain ⟨m1, h1, hs1⟩ := step_preserves m op hinv hwf (hv op (List.mem_cons_self ..))
    obtain ⟨m2, h2, hs2⟩ := ih m1 hs1.inv hs1.wf (by
      intro op' hop'
      rw [hs1.base, hs1.length]
      exact hv op' (List.mem_cons_of_mem _ hop'))
    refine ⟨m2, ?_, hs1.trans hs2⟩
    show (step m op >>= fun m' => run m' ops) = _
    rw [h1, Res.bind_ok, h2]

theorem history_length (m : Mem) (ops : List WOp) (hinv : BmInv m) (hwf : MemWF m)
    (hv : ∀ op ∈ ops, op.Valid m.base m.bytes.length) :
    ∃ m', run m ops = .ok m' ∧ m'.bytes.length = m.bytes.length ∧ m'.base = m.base := by
  obtain ⟨m', h, hs⟩ := history m ops hinv hwf hv
  exact ⟨m', h, hs.length, hs.base⟩

theorem write_step_untouched (m : Mem) (s : VSlice) (buf : List UInt8) (addr : Nat) (hinv : BmInv m)
    (hwf : MemWF m) (hin : Inside m s) (i : Nat) (hi : i < ofs m s ∨ ofs m s + s.size ≤ i) :
    ∃ m1, step m (.write s buf addr) = .ok m1 ∧ Same m m1 ∧ m1.bytes[i]? = m.bytes[i]? := by
  show ∃ m1, keep m Prod.fst (s.write m buf addr) = .ok m1 ∧ _
  by_cases hne : buf = []
  · subst hne; exact ⟨m, rfl, Same.refl hinv hwf, rfl⟩
  · by_cases h : addr < s.size
    · obtain ⟨m', hok, hst⟩ := write_ok m s buf addr hinv hwf hin hne h
      obtain ⟨m'', n, hok', hfr⟩ := write_confined m s buf addr hinv hwf hin hne h
      rw [hok] at hok' ⊢; cases hok'
      exact ⟨m', rfl, hst.same hwf, hfr i hi⟩
    · rw [write_oob m s buf addr hne (Nat.le_of_not_lt h)]
      exact ⟨m, rfl, Same.refl hinv hwf, rfl⟩

/-- a byte no operation of the history addresses is never changed: stated for a history
    of `write`s, each confined to its slice -/
theorem history_untouched (m : Mem) (reqs : List (VSlice × List UInt8 × Nat)) (hinv : BmInv m)
    (hwf : MemWF m) (i : Nat)
    (hv : ∀ r ∈ reqs, (m.base ≤ r.1.addr ∧ r.1.addr + r.1.size ≤ m.base + m.bytes.length) ∧
      (i < r.1.addr - m.base ∨ r.1.addr - m.base + r.1.size ≤ i)) :
    ∃ m', run m (reqs.map fun r => WOp.write r.1 r.2.1 r.2.2) = .ok m' ∧ m'.bytes[i]? = m.bytes[i]? := by
  induction reqs generalizing m with
  | nil => exact ⟨m, rfl, rfl⟩
  | cons r rs ih =>
    have hr := hv r (List.mem_cons_self ..)
    obtain ⟨m1, h1, hs1, hb1⟩ := write_step_untouched m r.1 r.2.1 r.2.2 hinv hwf hr.1 i hr.2
    obtain ⟨m2, h2, hb2⟩ := ih m1 hs1.inv hs1.wf (by
      intro r' hr'
      rw [hs1.base, hs1.length]
      exact hv r' (List.mem_cons_of_mem _ hr'))
    refine ⟨m2, ?_, hb2.trans hb1⟩
    show (step m _ >>= fun m' => run m' _) = _
    rw [h1, Res.bind_ok]; exact h2

/-! ## §12 what `BmInv` is for -/

/-- without `BmInv`: the only failure of an in-range `write` is a panic inside the bitmap -/
theorem write_cases (m : Mem) (s : VSlice) (buf : List UInt8) (addr : Nat)
    (hwf : MemWF m) (hin : Inside m s) (hne : buf ≠ []) (h : addr < s.size) :
    (s.write m buf addr = .panic ∧
      m.mark (sliceAt s.bmBase addr) 0 (min buf.length (s.size - addr)) = .panic) ∨
    ∃ m0, m.mark (sliceAt s.bmBase addr) 0 (min buf.length (s.size - addr)) = .ok m0 ∧
      s.write m buf addr =
        .ok ({ m0 with bytes := (splice m.bytes (ofs m s + addr)
                (buf.take (min buf.length (s.size - addr)))) }, min buf.length (s.size - addr)) := by
  have hw := Win.sub hin (Nat.le_trans (Nat.add_le_add_left (List.length_take_le _ buf) _) (cut_fits h buf.length))
  unfold VSlice.write
  rw [isEmpty_false hne, if_neg Bool.false_ne_true, if_neg (Nat.not_le.2 h), hin.offset hwf h,
    Res.bind_ok, Nat.min_comm]
  unfold copyToVolatileSlice
  rw [writeAt_ok _ _ _ hw, Res.bind_ok, mark_congr, Win.ofs hin]
  cases hm : m.mark (sliceAt s.bmBase addr) 0 (min buf.length (s.size - addr)) with
  | ok m0 => exact .inr ⟨m0, rfl, rfl⟩
  | panic => exact .inl ⟨rfl, rfl⟩
  | err e => exact absurd hm (mark_ne_err _ _ _ _ e)


/-- a tracking bitmap whose word vector is too short for its page count (not `Inv`) -/
def badBm : ABitmap := ⟨[], 8, 1000, 128⟩

theorem badBm_mark_panics :
    (⟨0x1003, List.replicate 13 0, some badBm⟩ : Mem).mark 0 0 1 = .panic := by decide +kernel

/-- `BmInv` cannot be dropped: with such a bitmap an in-range one-byte `write` panics
    (in `mark_dirty`, after the byte was stored) -/
theorem write_needs_BmInv :
    (VSlice.mk 0x1003 13 0).write ⟨0x1003, List.replicate 13 0, some badBm⟩ [7] 0 = .panic := by
  rcases write_cases ⟨0x1003, List.replicate 13 0, some badBm⟩ (VSlice.mk 0x1003 13 0) [7] 0
      ⟨by decide, by decide⟩ ⟨by decide, by decide⟩ (by decide) (by decide) with h | ⟨m0, hm0, _⟩
  · exact h.1
  · cases badBm_mark_panics.symm.trans hm0

/-! ## §13 non-vacuity: a 13-byte container at host address `0x1003` -/

/-- 13 bytes `0..12` at host address `0x1003` (base skew 3), no tracking -/
def exMem : Mem := ⟨0x1003, [0, 1, 2, 3, 4, 5, 6, 7, 8, 9, 10, 11, 12], none⟩
/-- bytes `[2, 10)` of it -/
def exS : VSlice := ⟨0x1005, 8, 2⟩

example : Inside exMem exS := ⟨by decide, by decide⟩
example : MemWF exMem := ⟨by decide, by decide⟩
example : BmInv exMem := BmInv_none _ rfl

/-- three bytes asked at offset 6 of an 8-byte slice: two are stored, `2` is reported -/
example : exS.write exMem [0xAA, 0xBB, 0xCC] 6 =
    .ok (⟨0x1003, [0, 1, 2, 3, 4, 5, 6, 7, 0xAA, 0xBB, 10, 11, 12], none⟩, 2) := by decide +kernel
example : exS.write exMem [0xAA] 8 = .err .outOfBounds := by decide +kernel
example : exS.write exMem [] 8 = .ok (exMem, 0) := by decide +kernel
example : exS.read exMem 5 6 = .ok [8, 9] := by decide +kernel
example : exS.read exMem 1 8 = .err .outOfBounds := by decide +kernel
example : exS.writeSlice exMem [0xAA, 0xBB, 0xCC] 6 =
    (⟨0x1003, [0, 1, 2, 3, 4, 5, 6, 7, 0xAA, 0xBB, 10, 11, 12], none⟩, .err (.partialBuffer 3 2)) := by
  decide +kernel
example : exS.readSlice exMem 3 6 = .err (.partialBuffer 3 2) := by decide +kernel
example : exS.readSlice exMem 2 6 = .ok [8, 9] := by decide +kernel
/-- `0x1005 + 3 = 0x1008` is 4-aligned -/
example : exS.store exMem [0xA0, 0xA1, 0xA2, 0xA3] ⟨4, 4⟩ 3 =
    .ok ⟨0x1003, [0, 1, 2, 3, 4, 0xA0, 0xA1, 0xA2, 0xA3, 9, 10, 11, 12], none⟩ := by decide +kernel
example : exS.store exMem [0xA0, 0xA1, 0xA2, 0xA3] ⟨4, 4⟩ 2 = .err .misaligned := by decide +kernel
example : exS.store exMem [0xA0, 0xA1, 0xA2, 0xA3] ⟨4, 4⟩ 7 = .err .outOfBounds := by decide +kernel
example : exS.load exMem ⟨4, 4⟩ 3 = .ok [5, 6, 7, 8] := by decide +kernel
/-- the same four bytes through `get_ref`, through `read`, through an array element -/
example : (exS.getRef 3 ⟨4, 4⟩ >>= fun r => r.load exMem) = .ok [5, 6, 7, 8] := by decide +kernel
example : exS.read exMem 4 3 = .ok [5, 6, 7, 8] := by decide +kernel
example : (exS.getArrayRef 1 3 ⟨2, 1⟩ >>= fun a => a.load exMem 1) = .ok [5, 6] := by decide +kernel
example : (exS.getArrayRef 1 3 ⟨2, 1⟩ >>= fun a => a.load exMem 3) = .panic := by decide +kernel
/-- `copy_to::<u32>` into a 5-element buffer: `8 / 4 = 2` elements -/
example : exS.copyTo exMem ⟨4, 4⟩ 5 = .ok (2, [2, 3, 4, 5, 6, 7, 8, 9]) := by decide +kernel
example : exS.copyTo exMem ⟨1, 1⟩ 20 = .ok (8, [2, 3, 4, 5, 6, 7, 8, 9]) := by decide +kernel
example : exS.copyTo exMem ⟨3, 1⟩ 1 = .ok (1, [2, 3, 4]) := by decide +kernel
example : exS.copyFrom exMem ⟨3, 1⟩ 5 [0xB0, 0xB1, 0xB2, 0xB3, 0xB4, 0xB5, 0xB6, 0xB7, 0xB8] =
    .ok ⟨0x1003, [0, 1, 0xB0, 0xB1, 0xB2, 0xB3, 0xB4, 0xB5, 8, 9, 10, 11, 12], none⟩ := by decide +kernel
/-- overlapping `copy_to_volatile_slice` is a memmove: the source bytes are those of the
    original container -/
example : (VSlice.mk 0x1003 6 0).copyToSlice exMem ⟨0x1005, 6, 2⟩ =
    .ok ⟨0x1003, [0, 1, 0, 1, 2, 3, 4, 5, 8, 9, 10, 11, 12], none⟩ := by decide +kernel
/-- a short destination cuts the copy -/
example : exS.copyToSlice exMem ⟨0x1003, 2, 0⟩ =
    .ok ⟨0x1003, [2, 3, 2, 3, 4, 5, 6, 7, 8, 9, 10, 11, 12], none⟩ := by decide +kernel
/-- a history -/
example : run exMem [.write exS [0xAA, 0xBB, 0xCC] 6, .store exS [1, 1, 1, 1] ⟨4, 4⟩ 2,
      .store exS [0xA0, 0xA1, 0xA2, 0xA3] ⟨4, 4⟩ 3, .copyToSlice ⟨0x1003, 6, 0⟩ ⟨0x1005, 6, 2⟩] =
    .ok ⟨0x1003, [0, 1, 0, 1, 2, 3, 4, 0xA0, 0xA3, 0xBB, 10, 11, 12], none⟩ := by decide +kernel
/-- outside the container the raw accessors report UB as a panic: the hypotheses
    `Inside` are what rules this out -/
example : (VSlice.mk 0x1005 20 2).write exMem [1, 2, 3] 10 = .panic := by decide +kernel

/-- the same container tracked by a bitmap with 4-byte pages -/
def exTracked : Mem := ⟨0x1003, [0, 1, 2, 3, 4, 5, 6, 7, 8, 9, 10, 11, 12], some (ABitmap.new 13 4)⟩

theorem exTracked_inv : BmInv exTracked := by
  intro b hb
  cases hb
  exact C09.new_inv 13 4 (by decide)

example : ∃ m', exS.write exTracked [0xAA, 0xBB, 0xCC] 6 = .ok (m', 2) ∧
    m'.bytes = [0, 1, 2, 3, 4, 5, 6, 7, 0xAA, 0xBB, 10, 11, 12] ∧ BmInv m' ∧
    exS.read m' 2 6 = .ok [0xAA, 0xBB] := by
  have hwf : MemWF exTracked := ⟨by decide, by decide⟩
  have hin : Inside exTracked exS := ⟨by decide, by decide⟩
  obtain ⟨m', hok, hst⟩ := write_ok exTracked exS [0xAA, 0xBB, 0xCC] 6 exTracked_inv hwf hin
    (by decide) (by decide)
  refine ⟨m', hok, ?_, hst.inv, ?_⟩
  · rw [hst.bytes]; decide
  · exact read_sees hst hwf exS 6 hin (by decide) (by decide) (by decide)

end C04
end VmMem

#print axioms VmMem.C04.Inside.size_lt
#print axioms VmMem.C04.Inside.window
#print axioms VmMem.C04.root_inside
#print axioms VmMem.C04.isEmpty_false
#print axioms VmMem.C04.raw_write
#print axioms VmMem.C04.raw_read
#print axioms VmMem.C04.raw_write_outside
#print axioms VmMem.C04.raw_read_outside
#print axioms VmMem.C04.write_empty
#print axioms VmMem.C04.write_oob
#print axioms VmMem.C04.write_ok
#print axioms VmMem.C04.write_spec
#print axioms VmMem.C04.write_no_panic
#print axioms VmMem.C04.write_ok_untracked
#print axioms VmMem.C04.read_zero
#print axioms VmMem.C04.read_oob
#print axioms VmMem.C04.read_ok
#print axioms VmMem.C04.read_spec
#print axioms VmMem.C04.read_length
#print axioms VmMem.C04.read_no_panic
#print axioms VmMem.C04.writeSlice_empty
#print axioms VmMem.C04.writeSlice_oob
#print axioms VmMem.C04.writeSlice_full
#print axioms VmMem.C04.writeSlice_partial
#print axioms VmMem.C04.writeSlice_ok_iff
#print axioms VmMem.C04.writeSlice_no_panic
#print axioms VmMem.C04.readSlice_zero
#print axioms VmMem.C04.readSlice_oob
#print axioms VmMem.C04.readSlice_full
#print axioms VmMem.C04.readSlice_partial
#print axioms VmMem.C04.readSlice_ok_iff
#print axioms VmMem.C04.readSlice_no_panic
#print axioms VmMem.C04.writeObj_eq
#print axioms VmMem.C04.readObj_eq
#print axioms VmMem.DataLemmas.Stored.inside
#print axioms VmMem.DataLemmas.Stored.memWF
#print axioms VmMem.DataLemmas.Stored.ofs_eq
#print axioms VmMem.C04.store_ok
#print axioms VmMem.C04.store_misaligned
#print axioms VmMem.C04.store_oob
#print axioms VmMem.C04.store_overflow
#print axioms VmMem.C04.store_ok_iff
#print axioms VmMem.C04.store_no_panic
#print axioms VmMem.C04.load_ok
#print axioms VmMem.C04.load_misaligned
#print axioms VmMem.C04.load_oob
#print axioms VmMem.C04.load_overflow
#print axioms VmMem.C04.load_ok_iff
#print axioms VmMem.C04.load_no_panic
#print axioms VmMem.C04.ref_store_ok
#print axioms VmMem.C04.ref_load_ok
#print axioms VmMem.C04.getRef_inside
#print axioms VmMem.C04.elem_lt_U
#print axioms VmMem.C04.refAt_inside
#print axioms VmMem.C04.arr_store_ok
#print axioms VmMem.C04.arr_load_ok
#print axioms VmMem.C04.arr_store_index
#print axioms VmMem.C04.arr_load_index
#print axioms VmMem.C04.arr_store_panic_iff
#print axioms VmMem.C04.arr_load_panic_iff
#print axioms VmMem.C04.arr_copyTo_ok
#print axioms VmMem.C04.arr_copyFrom_ok
#print axioms VmMem.C04.arr_copyTo_count
#print axioms VmMem.C04.elemCount_one
#print axioms VmMem.C04.elemCount_pos
#print axioms VmMem.C04.elemCount_zero
#print axioms VmMem.C04.elemCount_mul_le
#print axioms VmMem.C04.elem_array
#print axioms VmMem.C04.copyTo_ok
#print axioms VmMem.C04.copyFrom_ok
#print axioms VmMem.C04.copyTo_zst_too_big
#print axioms VmMem.C04.copyToSlice_ok
#print axioms VmMem.C04.arr_copyToSlice_ok
#print axioms VmMem.C04.copyToSlice_self_bytes
#print axioms VmMem.C04.frame
#print axioms VmMem.C04.write_frame
#print axioms VmMem.C04.write_confined
#print axioms VmMem.C04.routes_agree
#print axioms VmMem.C04.routes_agree_disjoint
#print axioms VmMem.DataLemmas.Stored.ainside
#print axioms VmMem.C04.read_sees
#print axioms VmMem.C04.readSlice_sees
#print axioms VmMem.C04.readObj_sees
#print axioms VmMem.C04.load_sees
#print axioms VmMem.C04.ref_load_sees
#print axioms VmMem.C04.arr_load_sees
#print axioms VmMem.C04.arr_copyTo_sees
#print axioms VmMem.C04.read_unaffected
#print axioms VmMem.C04.store_then_all_routes
#print axioms VmMem.C04.write_then_read
#print axioms VmMem.C04.Same.refl
#print axioms VmMem.C04.Same.trans
#print axioms VmMem.DataLemmas.Stored.same
#print axioms VmMem.C04.keep_same
#print axioms VmMem.C04.step_preserves
#print axioms VmMem.C04.history
#print axioms VmMem.C04.history_length
#print axioms VmMem.C04.history_untouched
#print axioms VmMem.C04.write_cases
#print axioms VmMem.C04.badBm_mark_panics
#print axioms VmMem.C04.write_needs_BmInv
#print axioms VmMem.C04.exTracked_inv
