/-
  VmMem.Props.C07 — guest-controlled addresses and lengths can never crash the monitor.

  In the model every Rust `panic!` / `assert!` / `unwrap()` on `None` / slice index out of range /
  division by zero / arithmetic overflow (build with overflow checks) — and every access outside
  a container, which would be undefined behaviour — is the result `.panic`.  "The monitor cannot
  be crashed" is: no entry point returns `.panic`.

  Three families of entry points, each an inductive enumeration of requests with their operands,
  one `run` function, one theorem `∀ req, req.Valid → (run … req).isPanic = false`:

    * `BitmapReq` / `runBitmap` / **`no_panic_bitmap`**  under `C09.Inv b`       — no operand bound;
    * `SliceReq`  / `runSlice`  / **`no_panic_slice`**   under `BmInv`, `MemWF`, `Inside`
          — no operand bound; the only guards are on `copy_to/copy_from::<T>` and concern the
            VMM's own buffer (`SliceReq.Valid`);
    * `GuestReq`  / `runGuest`  / **`no_panic_guest`**   under `FlatLemmas.GWF m`
          — buffer lengths `< 2^64` (`GuestReq.Valid`), nothing else.
  The stream forms are covered for EVERY reader / writer kind (also raw descriptors) and every
  fault script.

  Outside the families, stated exactly: the documented index panics of `VolatileArrayRef`
  (`documented_panics`); the guards on operands the VMM chooses (`enlarge_guard`,
  `zero_len_region_guard`, `oversized_zst_guard`); the primitives that take the build profile as
  a parameter (`profiles_agree`); that no modelled loop runs without end (the termination note in
  `C07s`, `readExactLoop_fuel`, `writeAllLoop_fuel`).  `bitmap_invariant_needed`: the constructor
  invariant cannot be dropped.

  This file holds the guest-memory family; everything else is in `VmMem.Props.C07s`.
-/
import VmMem.Props.C07s
import VmMem.Props.C02
import VmMem.Props.C03
import VmMem.Props.C14g
namespace VmMem
namespace C07
open VolatileLemmas IoLemmas GuestLemmas FlatLemmas

/-! ## the `try_access` loop never panics for a callback that does not -/

/-- For ANY callback that — called on a region of a memory satisfying `P` — keeps `P` and does
    not panic, the loop of `try_access` does not panic, whatever the callback reports (also a
    count larger than it was asked for: that is `CallbackOutOfRange`, an error value), for every
    `count` and every start address.  The indexing `regions[idx]`, the `unwrap` of
    `to_region_addr` and the two plain subtractions `region.len() - start`, `count - total`
    are all covered. -/
theorem loop_no_panic {σ : Type} (P : GMem → Prop)
    (f : GMem → σ → Nat → Nat → Nat → Nat → GMem × σ × Res Nat) (count addr : Nat)
    (hwf : ∀ m, P m → WF m)
    (hstep : ∀ (m : GMem) (st : σ) (total len start i : Nat) (r : Region), P m →
      m[i]? = some r → start < r.len → total < count →
      P (f m st total len start i).1 ∧ (f m st total len start i).2.2 ≠ .panic)
    (m : GMem) (st : σ) (cur total : Nat) (hP : P m) (ht : total < count) :
    (GMem.tryAccessLoop f count addr m st cur total).2.2 ≠ .panic := by
  refine LoopLemmas.loop_inv f count addr (fun m _ _ _ => P m) (fun out => out.2.2 ≠ .panic)
    (fun h => (hwf _ h).toWFT) (fun _ _ _ => by split <;> simp) ?_ hP ht
  intro m st cur total i r hP ht hi hin
  obtain ⟨hkeep, hnp⟩ := hstep m st total (min (r.len - (cur - r.start)) (count - total))
    (cur - r.start) i r hP hi (Nat.sub_lt_left_of_lt_add hin.1 hin.2) ht
  generalize f m st total _ _ i = x at hkeep hnp ⊢
  have hn := LoopLemmas.next_spec count cur total x
  cases hnx : LoopLemmas.next count cur total x with
  | done out => rw [hnx] at hn; exact hn.2.2 hnp
  | more m1 st1 c t => rw [hnx] at hn; exact hn.1 ▸ hkeep

theorem tryAccess_no_panic {σ : Type} (P : GMem → Prop)
    (f : GMem → σ → Nat → Nat → Nat → Nat → GMem × σ × Res Nat) (count addr : Nat)
    (hwf : ∀ m, P m → WF m)
    (hstep : ∀ (m : GMem) (st : σ) (total len start i : Nat) (r : Region), P m →
      m[i]? = some r → start < r.len → total < count →
      P (f m st total len start i).1 ∧ (f m st total len start i).2.2 ≠ .panic)
    (m : GMem) (st : σ) (hP : P m) : (GMem.tryAccess f m st count addr).2.2 ≠ .panic := by
  unfold GMem.tryAccess
  split
  · simp
  · exact loop_no_panic P f count addr hwf hstep m st addr 0 hP (Nat.pos_of_ne_zero ‹_›)

theorem mapErr_ne_panic {α : Type} {x : Res α} (h : x ≠ .panic) (f : Err → Err) :
    x.mapErr f ≠ .panic := by
  cases x <;> simp_all [Res.mapErr]

theorem rvcb_safe (count : Nat) (m : GMem) (src : Reader) (total len start i : Nat) (r : Region)
    (h : GWF m) (hi : m[i]? = some r) (_hs : start < r.len) (_ht : total < count) :
    GWF (C14g.rvcb m src total len start i).1 ∧ (C14g.rvcb m src total len start i).2.2 ≠ .panic := by
  have hr := h.regWF hi
  obtain ⟨m', r', res, hcall, hnp, hk⟩ := slice_readVolatileFrom_safe r.mem (rootSlice r) start src
    len hr.inv (FlatLemmas.rootSlice_inside r) hr.len_lt
  unfold C14g.rvcb
  simp only [hi, C14g.Region.readVolatileFrom_eq r hr.len_lt, hcall]
  exact ⟨h.set hi (key_with_mem r hk.len hk.base) hk.bm, mapErr_ne_panic hnp _⟩

theorem wvcb_safe (count : Nat) (m : GMem) (dst : Writer) (total len start i : Nat) (r : Region)
    (h : GWF m) (hi : m[i]? = some r) (_hs : start < r.len) (_ht : total < count) :
    GWF (C14g.wvcb m dst total len start i).1 ∧ (C14g.wvcb m dst total len start i).2.2 ≠ .panic := by
  have hnp := mapErr_ne_panic (slice_writeAllVolatileTo_safe r.mem (rootSlice r) start dst len
    (FlatLemmas.rootSlice_inside r)) Res.toGuestErr
  unfold C14g.wvcb
  simp only [hi, C14g.Region.writeAllVolatileTo_eq r (h.regWF hi).len_lt]
  generalize ((rootSlice r).writeAllVolatileTo r.mem start dst len).2.mapErr Res.toGuestErr = x
    at hnp ⊢
  cases x with
  | panic => exact absurd rfl hnp
  | err e => exact ⟨h, by simp⟩
  | ok u => exact ⟨h, by simp⟩

/-! ## family 3: guest memory (`GuestMemoryMmap`, `Bytes<GuestAddress>`) -/

/-- every query / access entry point of `GuestMemory`, with its guest-controlled operands -/
inductive GuestReq where
  | findRegion (a : Nat)
  | toRegionAddr (a : Nat)
  | addressInRange (a : Nat)
  | checkAddress (a : Nat)
  | checkRange (base len : Nat)
  | checkedOffset (base off : Nat)
  | lastAddr
  | getHostAddress (a : Nat)
  | getSlice (a cnt : Nat)
  | write (buf : List UInt8) (a : Nat)
  | read (len a : Nat)
  | writeSlice (buf : List UInt8) (a : Nat)
  | readSlice (len a : Nat)
  | writeObj (val : List UInt8) (a : Nat)
  | readObj (t : Ty) (a : Nat)
  | store (val : List UInt8) (t : Ty) (a : Nat)
  | load (t : Ty) (a : Nat)
  | readVolatileFrom (a : Nat) (r : Reader) (count : Nat)
  | readExactVolatileFrom (a : Nat) (r : Reader) (count : Nat)
  | writeVolatileTo (a : Nat) (w : Writer) (count : Nat)
  | writeAllVolatileTo (a : Nat) (w : Writer) (count : Nat)
  deriving Repr, DecidableEq

def runGuest (m : GMem) : GuestReq → Res Unit
  | .findRegion a => void (m.findRegion a)
  | .toRegionAddr a => void (m.toRegionAddr a)
  | .addressInRange a => void (m.addressInRange a)
  | .checkAddress a => void (m.checkAddress a)
  | .checkRange base len => void (m.checkRange base len)
  | .checkedOffset base off => void (m.checkedOffset base off)
  | .lastAddr => void m.lastAddr
  | .getHostAddress a => void (m.getHostAddress a)
  | .getSlice a cnt => void (m.getSlice a cnt)
  | .write buf a => void (m.write buf a).2
  | .read len a => void (m.read len a)
  | .writeSlice buf a => (m.writeSlice buf a).2
  | .readSlice len a => void (m.readSlice len a)
  | .writeObj val a => (m.writeObj val a).2
  | .readObj t a => void (m.readObj t a)
  | .store val t a => void (m.store val t a)
  | .load t a => void (m.load t a)
  | .readVolatileFrom a r count => void (m.readVolatileFrom a r count).2.2
  | .readExactVolatileFrom a r count => (m.readExactVolatileFrom a r count).2.2
  | .writeVolatileTo a w count => void (m.writeVolatileTo a w count).2
  | .writeAllVolatileTo a w count => (m.writeAllVolatileTo a w count).2

/-- The only hypothesis on operands: a buffer length / `check_range` length is a `usize` value
    (`< 2^64`) — a Rust slice cannot be longer; `Lemmas/LoopLemmas` discharges
    `total.checked_add(len)` with it.  Addresses, offsets, counts of the stream forms, types,
    stream kinds and fault scripts are unconstrained. -/
def GuestReq.Valid : GuestReq → Prop
  | .checkRange _ len => len < U
  | .write buf _ => buf.length < U
  | .read len _ => len < U
  | .writeSlice buf _ => buf.length < U
  | .readSlice len _ => len < U
  | .writeObj val _ => val.length < U
  | .readObj t _ => t.size < U
  | _ => True

/-- the `…_slice` / `…_exact` / `…_all` forms turn a short count into `PartialBuffer` and pass
    everything else on -/
theorem writeSlice_np {m : GMem} {buf : List UInt8} {a : Nat} (h : (m.write buf a).2 ≠ .panic) :
    (m.writeSlice buf a).2 ≠ .panic := by
  unfold GMem.writeSlice
  split
  · split <;> simp
  · simp
  · exact absurd (congrArg Prod.snd ‹_›) h

theorem readSlice_np {m : GMem} {len a : Nat} (h : m.read len a ≠ .panic) :
    m.readSlice len a ≠ .panic := by
  unfold GMem.readSlice
  cases hr : m.read len a with
  | ok d => rw [Res.bind_ok]; split <;> simp
  | err e => simp
  | panic => exact absurd hr h

theorem readExactVolatileFrom_np {m : GMem} {a : Nat} {r : Reader} {count : Nat}
    (h : (m.readVolatileFrom a r count).2.2 ≠ .panic) :
    (m.readExactVolatileFrom a r count).2.2 ≠ .panic := by
  unfold GMem.readExactVolatileFrom
  split
  · split <;> simp
  · simp
  · exact absurd (congrArg Prod.snd (congrArg Prod.snd ‹_›)) h

theorem writeAllVolatileTo_np {m : GMem} {a : Nat} {w : Writer} {count : Nat}
    (h : (m.writeVolatileTo a w count).2 ≠ .panic) : (m.writeAllVolatileTo a w count).2 ≠ .panic := by
  unfold GMem.writeAllVolatileTo
  split
  · split <;> simp
  · simp
  · exact absurd (congrArg Prod.snd ‹_›) h

theorem guest_write_np (m : GMem) (h : GWF m) (buf : List UInt8) (hl : buf.length < U) (a : Nat) :
    (m.write buf a).2 ≠ .panic := by
  by_cases hb : buf = []
  · subst hb; rw [C18g.write_empty]; simp
  · exact (C03.write_err_iff m h buf hb hl a).2.2

theorem guest_read_np (m : GMem) (h : GWF m) (len : Nat) (hl : len < U) (a : Nat) :
    m.read len a ≠ .panic := by
  by_cases h0 : len = 0
  · subst h0; rw [C18g.read_zero]; simp
  · exact (C03.read_err_iff m h len (Nat.pos_of_ne_zero h0) hl a).2.2

theorem guest_readVolatileFrom_np (m : GMem) (h : GWF m) (a : Nat) (r : Reader) (count : Nat) :
    (m.readVolatileFrom a r count).2.2 ≠ .panic := by
  rw [C14g.readVolatileFrom_eq_loop]
  exact tryAccess_no_panic GWF C14g.rvcb count a (fun _ hh => hh.1) (rvcb_safe count) m r h

theorem guest_writeVolatileTo_np (m : GMem) (h : GWF m) (a : Nat) (w : Writer) (count : Nat) :
    (m.writeVolatileTo a w count).2 ≠ .panic := by
  rw [C14g.writeVolatileTo_eq_loop]
  exact tryAccess_no_panic GWF C14g.wvcb count a (fun _ hh => hh.1) (wvcb_safe count) m w h

/-- On a well-formed guest memory (`GWF`: what `from_regions` /
    `insert_region` / `remove_region` produce from non-empty regions — `C10.history` — with sane
    containers) no entry point panics, for ANY guest address, offset, count, object type, and —
    for the stream forms — any reader / writer kind and any fault script.  In particular the
    indexing `regions[x - 1]`, the plain `len - 1` / `start + len - 1` of `last_addr`, the
    `unwrap` of `to_region_addr`, and `region.len() - start` / `count - total` in `try_access`
    never reach their failure branch. -/
theorem no_panic_guest (m : GMem) (h : GWF m) :
    ∀ req : GuestReq, req.Valid → (runGuest m req).isPanic = false := by
  intro req hv
  cases req with
  | findRegion a => exact np (C02.findRegion_no_panic m h.1 a).1
  | toRegionAddr a => exact np_ex (C02.toRegionAddr_spec m h.1 a).2.2
  | addressInRange a => exact np_ok (C02.addressInRange_spec m h.1 a)
  | checkAddress a => exact np_ok (C02.checkAddress_spec m h.1 a)
  | checkRange base len => exact np_ok (LoopLemmas.checkRange_eq_runLen h.1.toWFT base hv)
  | checkedOffset base off => exact np_ok (C02.checkedOffset_eq m h.1 base off)
  | lastAddr => exact np_ex (C02.lastAddr_no_panic m h.1)
  | getHostAddress a => exact np (C02.getHostAddress_spec m h.1 a).2.2
  | getSlice a cnt =>
    rcases C02.getSlice_cases m h.1 a cnt with ⟨_, _, e⟩ | ⟨_, e⟩ | ⟨_, e⟩
    · exact np_ok e
    · exact np_err e
    · exact np_err e
  | write buf a => exact np (guest_write_np m h buf hv a)
  | read len a => exact np (guest_read_np m h len hv a)
  | writeSlice buf a =>
    exact (isPanic_false_iff _).2 (writeSlice_np (guest_write_np m h buf hv a))
  | readSlice len a => exact np (readSlice_np (guest_read_np m h len hv a))
  | writeObj val a =>
    exact (isPanic_false_iff _).2 (writeSlice_np (guest_write_np m h val hv a))
  | readObj t a => exact np (readSlice_np (guest_read_np m h t.size hv a))
  | store val t a => exact np (C03.store_ok_iff m h val t a).2.2
  | load t a =>
    obtain ⟨h1, h2, h3⟩ := C03.load_flat m h t a
    by_cases hob : C03.ObjAt m t a
    · exact np_ok (h3 hob)
    · by_cases hm : mapped m a
      · exact np_err (h2 hm hob)
      · exact np_err (h1 hm)
  | readVolatileFrom a r count => exact np (guest_readVolatileFrom_np m h a r count)
  | readExactVolatileFrom a r count =>
    exact (isPanic_false_iff _).2
      (readExactVolatileFrom_np (guest_readVolatileFrom_np m h a r count))
  | writeVolatileTo a w count => exact np (guest_writeVolatileTo_np m h a w count)
  | writeAllVolatileTo a w count =>
    exact (isPanic_false_iff _).2
      (writeAllVolatileTo_np (guest_writeVolatileTo_np m h a w count))

/-- the families are inhabited by requests far outside every bound: all of these are errors or
    `Ok`, none a panic -/
example : (runGuest C03.exMem (.readSlice 9 0xffff_ffff_ffff_fff0)).isPanic = false :=
  no_panic_guest _ C03.exMem_GWF _ (by show 9 < U; decide)
example : (runGuest C03.exMem (.store [1, 2, 3, 4] ⟨4, 4⟩ (U - 1))).isPanic = false :=
  no_panic_guest _ C03.exMem_GWF _ trivial
example : (runGuest C03.exMem (.readExactVolatileFrom 0x1002
    ⟨.fd, [1, 2, 3, 4, 5, 6, 7, 8, 9], 0, [.short 1, .eintr, .fail]⟩ (U + 5))).isPanic = false :=
  no_panic_guest _ C03.exMem_GWF _ trivial

#print axioms no_panic_guest
#print axioms loop_no_panic
#print axioms tryAccess_no_panic
#print axioms rvcb_safe
#print axioms wvcb_safe

end C07
end VmMem
