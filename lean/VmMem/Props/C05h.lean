/-
  VmMem.Props.C05h — C05 (soundness of dirty-page tracking) under a concurrent harvester.

  `VmMem.Props.C05` is sequential: it relates the state before an operation to the state
  after it.  A harvester thread (`AtomicBitmap::get_and_reset`, or `reset`) may run at any
  moment, in particular BETWEEN the two phases of a tracked store:

      store the bytes            (`storePhase`,  `Mem.writeAt`)
      mark the pages dirty       (`markPhase`,   `Mem.mark`)

  The source issues them in this order (`copy_to_volatile_slice`: `copy_slice`, then
  `slice.bitmap.mark_dirty(0, count)`; the same for `VolatileRef::store`, `Bytes::store`).
  With this order a harvest between the phases is harmless: the mark comes after it, so
  every changed byte is dirty in the final state (§3).  With the opposite order the harvest
  would collect the mark BEFORE the bytes change, and the page modified afterwards would
  stay clean for ever (§5, a concrete container).

  §6 lifts §3 to the public operations (`write`, `write_slice`, the three `store`s), each
  restated with `k` harvests between its two phases (`writeH` …; `k = 0` is the model function).
  Harvests stand only at the phase boundary: each phase runs as one step here, a harvest among
  the per-page `fetch_or`s of one mark is C08's subject.
-/
import VmMem.Props.C05
namespace VmMem.C05h
open VmMem C01 Dirty VolatileLemmas

/-! ## §0 definitions -/

/-- a concurrent harvest (or reset) of the container's bitmap: `get_and_reset` -/
def harvest (m : Mem) : Mem := { m with bm := m.bm.map (fun b => b.getAndReset.1) }

/-- the words that harvest hands to its caller -/
def harvestResult (m : Mem) : List (BitVec 64) :=
  match m.bm with
  | some b => b.getAndReset.2
  | none => []

/-- the two phases of a tracked store, in the order the source has them -/
def storePhase (m : Mem) (s : VSlice) (src : List UInt8) (total : Nat) : Res Mem :=
  m.writeAt s.addr (src.take total)
def markPhase (m : Mem) (s : VSlice) (total : Nat) : Res Mem := m.mark s.bmBase 0 total

/-- `AtomicBitmap::reset` has the same effect on the container as the state part of a harvest -/
theorem harvest_eq_reset (m : Mem) : harvest m = { m with bm := m.bm.map ABitmap.reset } :=
  congrArg (fun f => { m with bm := m.bm.map f })
    (funext fun b => (C09.reset_eq_getAndReset b).symm)

theorem stepH_harvest (m : Mem) (snap : List UInt8) :
    C05.stepH (m, snap) .harvest = .ok (harvest m, m.bytes) := rfl

/-! ## §1 the operation is its two phases, store first -/

theorem copy_is_store_then_mark (m : Mem) (s : VSlice) (src : List UInt8) (total : Nat) :
    copyToVolatileSlice m s src total =
      (do let m1 ← storePhase m s src total
          let m2 ← markPhase m1 s total
          pure (m2, total)) := rfl

/-! ## §2 a harvest keeps the setting, the bytes and the accessors; it empties the bitmap -/

@[simp] theorem harvest_bytes (m : Mem) : (harvest m).bytes = m.bytes := rfl
@[simp] theorem harvest_base (m : Mem) : (harvest m).base = m.base := rfl

/-- explicit form: the bitmap after the harvest is `b.getAndReset.1` -/
theorem harvest_setting_explicit {m : Mem} {b : ABitmap} {B0 : Nat} (hs : Setting m b B0) :
    Setting (harvest m) b.getAndReset.1 B0 ∧ (∀ p, b.getAndReset.1.bit p = false) ∧
      b.getAndReset.1.page = b.page ∧ b.getAndReset.1.byteSize = b.byteSize := by
  obtain ⟨r1, -, r3, r4, r5, -⟩ := C09.getAndReset_spec b hs.inv
  exact ⟨hs.congr (by simp only [harvest, hs.bm, Option.map_some]) r1 r3 rfl rfl, r5, r4, r3⟩

theorem harvest_setting {m : Mem} {b : ABitmap} {B0 : Nat} (hs : Setting m b B0) :
    ∃ b', Setting (harvest m) b' B0 ∧ (∀ p, b'.bit p = false) ∧
      (harvest m).bytes = m.bytes ∧ (harvest m).base = m.base :=
  ⟨b.getAndReset.1, (harvest_setting_explicit hs).1, (harvest_setting_explicit hs).2.1, rfl, rfl⟩

theorem harvest_tracks {m : Mem} {B0 : Nat} {a : Acc} (ht : Tracks m B0 a) :
    Tracks (harvest m) B0 a := ht.congr rfl rfl

/-- directly after a harvest nothing is dirty -/
theorem harvest_cleans {m : Mem} {b : ABitmap} {B0 : Nat} (hs : Setting m b B0) (i : Nat) :
    dirty (harvest m) B0 i = false :=
  (C05.reset_cleans hs i).2

/-- any number of harvests (`Nat.repeat harvest k m`: `harvest` applied `k` times) -/
theorem harvests_setting {m : Mem} {b : ABitmap} {B0 : Nat} (hs : Setting m b B0) (k : Nat) :
    ∃ bk, Setting (Nat.repeat harvest k m) bk B0 ∧ bk.page = b.page ∧ bk.byteSize = b.byteSize ∧
      (0 < k → ∀ p, bk.bit p = false) ∧
      (Nat.repeat harvest k m).bytes = m.bytes ∧ (Nat.repeat harvest k m).base = m.base := by
  induction k with
  | zero => exact ⟨b, hs, rfl, rfl, (Nat.lt_irrefl 0).elim, rfl, rfl⟩
  | succ k ih =>
    obtain ⟨bk, i1, i2, i3, -, i5, i6⟩ := ih
    obtain ⟨h1, h2, h3, h4⟩ := harvest_setting_explicit i1
    exact ⟨_, h1, h3.trans i2, h4.trans i3, fun _ => h2, i5, i6⟩

theorem harvests_tracks {m : Mem} {B0 : Nat} {a : Acc} (ht : Tracks m B0 a) (k : Nat) :
    Tracks (Nat.repeat harvest k m) B0 a := by
  induction k with
  | zero => exact ht
  | succ k ih => exact harvest_tracks ih

/-! ## §3 store, harvest(s), mark: every changed byte is dirty at the end -/

/-- every byte of the window of an `Effect` is dirty afterwards (changed or not) -/
theorem effect_window_dirty {m : Mem} {b : ABitmap} {B0 : Nat} {m' : Mem} {b' : ABitmap} {w n : Nat}
    (he : Effect m b B0 m' b' w n) (i : Nat) (hlo : w ≤ i) (hhi : i < w + n) :
    dirty m' B0 i = true :=
  he.window_dirty i hlo hhi

/-- the workhorse: `writeAt` of `d` at byte `off` of a tracked accessor, then `k` harvests, then
    `mark_dirty(off, n)` through the accessor's bitmap slice.  The mark acts on the harvested
    bitmap `bk`; relative to the container BEFORE the store this is an `Effect` all the same,
    so everything `C05` and `C16` read off an `Effect` holds with the harvests in between. -/
theorem store_harvest_mark {m : Mem} {b : ABitmap} {B0 : Nat} (hs : Setting m b B0) {a : Acc}
    (ht : Tracks m B0 a) {x off n k : Nat} {d : List UInt8} {m1 m2 : Mem}
    (hx : x = a.lo + off) (hfit : off + n ≤ a.bytes) (hdn : d.length ≤ n)
    (h1 : m.writeAt x d = .ok m1) (h2 : (Nat.repeat harvest k m1).mark a.bmBase off n = .ok m2) :
    ∃ bk b2, Setting m2 b2 B0 ∧ Effect m bk B0 m2 b2 (a.lo - m.base + off) n := by
  obtain ⟨bk, hsk, -, hbs, -, hbytes, hbase⟩ := harvests_setting (hs.writeAt h1) k
  obtain ⟨b2, he⟩ := ht.store_mark hx hfit hdn h1 hsk hbytes hbase h2
  exact ⟨bk, b2, hs.congr he.bm he.inv (he.byteSize.trans hbs) he.base he.len, he⟩

/-- … hence soundness with respect to the bytes BEFORE the store -/
theorem store_harvest_mark_sound {m : Mem} {b : ABitmap} {B0 : Nat} (hs : Setting m b B0) {a : Acc}
    (ht : Tracks m B0 a) {x off n k : Nat} {d : List UInt8} {m1 m2 : Mem}
    (hx : x = a.lo + off) (hfit : off + n ≤ a.bytes) (hdn : d.length ≤ n)
    (h1 : m.writeAt x d = .ok m1) (h2 : (Nat.repeat harvest k m1).mark a.bmBase off n = .ok m2) :
    (∃ b2, Setting m2 b2 B0) ∧ ∀ i, m2.bytes[i]? ≠ m.bytes[i]? → dirty m2 B0 i = true := by
  obtain ⟨bk, b2, hs2, he⟩ := store_harvest_mark hs ht hx hfit hdn h1 h2
  exact ⟨⟨b2, hs2⟩, he.sound⟩

section copy
variable {m : Mem} {b : ABitmap} {B0 : Nat}

/-- `k` harvests between the store and the mark -/
theorem sound_with_harvests_between (hs : Setting m b B0) {s : VSlice} (ht : Tracks m B0 (.sl s))
    {src : List UInt8} {total : Nat} {m1 m2 : Mem} (htot : total ≤ s.size) (k : Nat)
    (h1 : storePhase m s src total = .ok m1) (h2 : markPhase (Nat.repeat harvest k m1) s total = .ok m2) :
    ∀ i, m2.bytes[i]? ≠ m.bytes[i]? → dirty m2 B0 i = true :=
  (store_harvest_mark_sound hs ht (off := 0) rfl (Nat.zero_add _ ▸ htot)
    (List.length_take_le _ _) h1 h2).2

/-- with a harvest between the store and the mark, every byte the operation changed
    is dirty afterwards -/
theorem sound_with_harvest_between (hs : Setting m b B0) {s : VSlice} (ht : Tracks m B0 (.sl s))
    {src : List UInt8} {total : Nat} {m1 m2 : Mem} (htot : total ≤ s.size)
    (h1 : storePhase m s src total = .ok m1) (h2 : markPhase (harvest m1) s total = .ok m2) :
    ∀ i, m2.bytes[i]? ≠ m.bytes[i]? → dirty m2 B0 i = true :=
  sound_with_harvests_between hs ht htot 1 h1 h2

/-- the case of no harvest, which is also `C05.sound` for `copyIn` -/
theorem sound_without_harvest (hs : Setting m b B0) {s : VSlice} (ht : Tracks m B0 (.sl s))
    {src : List UInt8} {total : Nat} {m1 m2 : Mem} (htot : total ≤ s.size)
    (h1 : storePhase m s src total = .ok m1) (h2 : markPhase m1 s total = .ok m2) :
    ∀ i, m2.bytes[i]? ≠ m.bytes[i]? → dirty m2 B0 i = true :=
  sound_with_harvests_between hs ht htot 0 h1 h2

/-- harvests both before the store (`j` of them) and between the store and the mark (`k`) -/
theorem sound_with_harvests_before_and_between (hs : Setting m b B0) {s : VSlice}
    (ht : Tracks m B0 (.sl s)) {src : List UInt8} {total : Nat} {m1 m2 : Mem}
    (htot : total ≤ s.size) (j k : Nat)
    (h1 : storePhase (Nat.repeat harvest j m) s src total = .ok m1)
    (h2 : markPhase (Nat.repeat harvest k m1) s total = .ok m2) :
    ∀ i, m2.bytes[i]? ≠ m.bytes[i]? → dirty m2 B0 i = true := by
  obtain ⟨bj, hsj, -, -, -, hbytes, -⟩ := harvests_setting hs j
  exact hbytes ▸ sound_with_harvests_between hsj (harvests_tracks ht j) htot k h1 h2

end copy

/-! ## §4 a harvest AFTER the mark legitimately collects it: then the page is in the
       words that harvest returns.  ("reported dirty" then refers to that result.) -/

/-- the words a harvest returns encode exactly the set of dirty pages -/
theorem harvestResult_spec {m : Mem} {b : ABitmap} {B0 : Nat} (hs : Setting m b B0) (p : Nat) :
    (p < 64 * (harvestResult m).length ∧
      ((harvestResult m).getD (p / 64) 0).getLsbD (p % 64) = true) ↔ b.bit p = true := by
  obtain ⟨-, -, -, -, -, -, h7⟩ := C09.getAndReset_spec b hs.inv
  simp only [harvestResult, hs.bm]
  exact h7 p

/-- a page that is dirty when the harvest runs is returned by it -/
theorem harvestResult_bit {m : Mem} {b : ABitmap} {B0 : Nat} (hs : Setting m b B0) (p : Nat)
    (h : b.bit p = true) : ((harvestResult m).getD (p / 64) 0).getLsbD (p % 64) = true :=
  ((harvestResult_spec hs p).2 h).2

/-- a byte that is dirty when the harvest runs: its page is returned by the harvest -/
theorem harvestResult_dirty {m : Mem} {b : ABitmap} {B0 : Nat} (hs : Setting m b B0) (i : Nat)
    (h : dirty m B0 i = true) :
    ((harvestResult m).getD ((B0 + i) / b.page / 64) 0).getLsbD ((B0 + i) / b.page % 64) = true := by
  rw [dirty_of_bm hs.bm] at h
  exact harvestResult_bit hs _ h

section after
variable {m : Mem} {b : ABitmap} {B0 : Nat}

/-- store, (any number of harvests), mark — and then possibly one more harvest.
    `m2` is the state after the operation, `b2` its bitmap.  Every page set in `b2` is returned
    by a harvest of `m2`; for a byte `i` the operation changed: it is dirty in `m2`, and a
    harvest running after the mark returns its page (and, of course, leaves it clean: that
    harvest's RESULT is what reports the byte). -/
theorem mark_survives_or_is_harvested (hs : Setting m b B0) {s : VSlice} (ht : Tracks m B0 (.sl s))
    {src : List UInt8} {total : Nat} {m1 m2 : Mem} (htot : total ≤ s.size) (k : Nat)
    (h1 : storePhase m s src total = .ok m1)
    (h2 : markPhase (Nat.repeat harvest k m1) s total = .ok m2) :
    ∃ b2, Setting m2 b2 B0 ∧
      (∀ p, b2.bit p = true → ((harvestResult m2).getD (p / 64) 0).getLsbD (p % 64) = true) ∧
      ∀ i, m2.bytes[i]? ≠ m.bytes[i]? →
        dirty m2 B0 i = true ∧
        ((harvestResult m2).getD ((B0 + i) / b2.page / 64) 0).getLsbD ((B0 + i) / b2.page % 64) = true ∧
        (harvest m2).bytes = m2.bytes ∧ dirty (harvest m2) B0 i = false := by
  obtain ⟨⟨b2, hs2⟩, hsound⟩ := store_harvest_mark_sound hs ht (off := 0) rfl
    (Nat.zero_add _ ▸ htot) (List.length_take_le _ _) h1 h2
  refine ⟨b2, hs2, fun p hp => harvestResult_bit hs2 p hp, ?_⟩
  intro i hne
  have hd := hsound i hne
  exact ⟨hd, harvestResult_dirty hs2 i hd, rfl, harvest_cleans hs2 i⟩

/-- the either/or reading: whether or not a harvest ran after the mark (`fin` is the final
    state), a changed byte is dirty in the final state or was returned by that harvest -/
theorem final_dirty_or_harvested (hs : Setting m b B0) {s : VSlice} (ht : Tracks m B0 (.sl s))
    {src : List UInt8} {total : Nat} {m1 m2 : Mem} (htot : total ≤ s.size) (k : Nat)
    (h1 : storePhase m s src total = .ok m1)
    (h2 : markPhase (Nat.repeat harvest k m1) s total = .ok m2)
    (fin : Mem) (hfin : fin = m2 ∨ fin = harvest m2) :
    ∀ i, fin.bytes[i]? ≠ m.bytes[i]? →
      dirty fin B0 i = true ∨
      (fin = harvest m2 ∧ ∃ b2, m2.bm = some b2 ∧
        ((harvestResult m2).getD ((B0 + i) / b2.page / 64) 0).getLsbD ((B0 + i) / b2.page % 64) = true) := by
  obtain ⟨b2, hs2, -, h⟩ := mark_survives_or_is_harvested hs ht htot k h1 h2
  intro i hne
  cases hfin with
  | inl hf => subst hf; exact .inl (h i hne).1
  | inr hf => subst hf; exact .inr ⟨rfl, b2, hs2.bm, (h i hne).2.1⟩

end after

/-! ## §5 the order matters: mark first, harvest, store — a modified page stays clean -/

/-- 16 bytes at 0x1000, 4-byte pages, `B0 = 0` -/
def cM : Mem := { base := 0x1000, bytes := List.replicate 16 0, bm := some (ABitmap.new 16 4) }
/-- two bytes at offset 5 of the container (page 1) -/
def cS : VSlice := { addr := 0x1005, size := 2, bmBase := 5 }
def cSrc : List UInt8 := [0xAA, 0xBB]

/-- after the mark: page 1 set -/
def cMa : Mem := { cM with bm := some ⟨[2#64], 4, 16, 4⟩ }
/-- after mark, harvest, store: bytes 5 and 6 changed, bitmap empty -/
def cMb : Mem :=
  { base := 0x1000, bytes := [0, 0, 0, 0, 0, 0xAA, 0xBB, 0, 0, 0, 0, 0, 0, 0, 0, 0],
    bm := some ⟨[0#64], 4, 16, 4⟩ }

theorem cM_setting : Setting cM (ABitmap.new 16 4) 0 :=
  ⟨rfl, C09.new_inv 16 4 (by decide), by decide, by decide, by decide⟩

theorem cS_tracks : Tracks cM 0 (.sl cS) := by
  refine ⟨?_, ?_, ?_⟩ <;> decide

/-- the hypothetical opposite order: `mark_dirty` first, then the store -/
def markThenStore (m : Mem) (s : VSlice) (src : List UInt8) (total : Nat) : Res (Mem × Nat) := do
  let ma ← markPhase m s total
  let mb ← storePhase ma s src total
  pure (mb, total)

/-- … with `k` harvests between its two phases -/
def markThenStoreH (m : Mem) (s : VSlice) (src : List UInt8) (total k : Nat) : Res (Mem × Nat) := do
  let ma ← markPhase m s total
  let mb ← storePhase (Nat.repeat harvest k ma) s src total
  pure (mb, total)

theorem markThenStoreH_zero (m : Mem) (s : VSlice) (src : List UInt8) (total : Nat) :
    markThenStoreH m s src total 0 = markThenStore m s src total := rfl

/-- mark first, then a harvest, then the store: the mark is collected BEFORE the bytes
    change (the harvester reads the old bytes of page 1 and is told nothing afterwards);
    byte 5 differs from the initial container and its page is clean.  The hypotheses of
    `sound_with_harvest_between` (`cM_setting`, `cS_tracks`, `2 ≤ cS.size`) all hold: only
    the order of the phases differs. -/
theorem mark_first_is_unsound :
    markPhase cM cS 2 = .ok cMa ∧ dirty cMa 0 5 = true ∧ harvestResult cMa = [2#64] ∧
    storePhase (harvest cMa) cS cSrc 2 = .ok cMb ∧
    cMb.bytes[5]? ≠ cM.bytes[5]? ∧ dirty cMb 0 5 = false ∧
    harvestResult cMb = [0#64] := by
  decide +kernel

/-- the same as one run of the reordered operation -/
theorem mark_first_is_unsound_run :
    markThenStoreH cM cS cSrc 2 1 = .ok (cMb, 2) ∧
    ¬ (∀ i, cMb.bytes[i]? ≠ cM.bytes[i]? → dirty cMb 0 i = true) := by
  refine ⟨by decide +kernel, ?_⟩
  intro h
  have := h 5 (by decide +kernel)
  revert this
  decide +kernel

/-- without interference both orders give the same final state: the sequential theorems of
    `C05` cannot tell them apart -/
theorem orders_agree_sequentially :
    markThenStore cM cS cSrc 2 = copyToVolatileSlice cM cS cSrc 2 := by
  decide +kernel

/-- non-vacuity of §3 on the same container with the same harvest: store first, harvest,
    mark.  The phases succeed, byte 5 changed, and `sound_with_harvest_between` (not
    evaluation) gives that it is dirty. -/
theorem store_first_is_sound_here :
    ∃ m1 m2, storePhase cM cS cSrc 2 = .ok m1 ∧ markPhase (harvest m1) cS 2 = .ok m2 ∧
      m2.bytes[5]? ≠ cM.bytes[5]? ∧ dirty m2 0 5 = true ∧ dirty m2 0 6 = true := by
  have h1 : storePhase cM cS cSrc 2 = .ok { cMb with bm := some (ABitmap.new 16 4) } := by
    decide +kernel
  have h2 : markPhase (harvest { cMb with bm := some (ABitmap.new 16 4) }) cS 2
      = .ok { cMb with bm := some ⟨[2#64], 4, 16, 4⟩ } := by decide +kernel
  have hsound := sound_with_harvest_between cM_setting cS_tracks (by decide) h1 h2
  exact ⟨_, _, h1, h2, by decide +kernel, hsound 5 (by decide +kernel), hsound 6 (by decide +kernel)⟩

/-- … and the evaluation agrees with the theorem -/
example : dirty ({ cMb with bm := some ⟨[2#64], 4, 16, 4⟩ } : Mem) 0 5 = true := by decide +kernel

/-! ## §6 the public operations built from the two phases -/

/-- `copy_to_volatile_slice` with `k` harvests between its store and its mark -/
def copyH (m : Mem) (s : VSlice) (src : List UInt8) (total k : Nat) : Res (Mem × Nat) := do
  let m1 ← storePhase m s src total
  let m2 ← markPhase (Nat.repeat harvest k m1) s total
  pure (m2, total)

theorem copyH_zero (m : Mem) (s : VSlice) (src : List UInt8) (total : Nat) :
    copyH m s src total 0 = copyToVolatileSlice m s src total := rfl

theorem copyH_ok {m : Mem} {s : VSlice} {src : List UInt8} {total k n : Nat} {m' : Mem}
    (h : copyH m s src total k = .ok (m', n)) :
    n = total ∧ ∃ m1, storePhase m s src total = .ok m1 ∧
      markPhase (Nat.repeat harvest k m1) s total = .ok m' := by
  unfold copyH at h
  obtain ⟨m1, h1, h⟩ := (Res.bind_eq_ok _ _ _).1 h
  obtain ⟨m2, h2, h⟩ := (Res.bind_eq_ok _ _ _).1 h
  cases h
  exact ⟨rfl, m1, h1, h2⟩

section ops
variable {m : Mem} {b : ABitmap} {B0 : Nat}

theorem copy_sound_with_harvest (hs : Setting m b B0) {s : VSlice} (ht : Tracks m B0 (.sl s))
    {src : List UInt8} {total k n : Nat} {m' : Mem} (htot : total ≤ s.size)
    (h : copyH m s src total k = .ok (m', n)) :
    ∀ i, m'.bytes[i]? ≠ m.bytes[i]? → dirty m' B0 i = true := by
  obtain ⟨-, m1, h1, h2⟩ := copyH_ok h
  exact sound_with_harvests_between hs ht htot k h1 h2

/-- `mark_survives_or_is_harvested` for the operation run without interference: `m'` is the
    state after `copy_to_volatile_slice` -/
theorem copy_then_harvest (hs : Setting m b B0) {s : VSlice} (ht : Tracks m B0 (.sl s))
    {src : List UInt8} {total n : Nat} {m' : Mem} (htot : total ≤ s.size)
    (h : copyToVolatileSlice m s src total = .ok (m', n)) :
    ∃ b', Setting m' b' B0 ∧
      (∀ p, b'.bit p = true → ((harvestResult m').getD (p / 64) 0).getLsbD (p % 64) = true) ∧
      ∀ i, m'.bytes[i]? ≠ m.bytes[i]? →
        dirty m' B0 i = true ∧
        ((harvestResult m').getD ((B0 + i) / b'.page / 64) 0).getLsbD ((B0 + i) / b'.page % 64) = true := by
  obtain ⟨-, m1, h1, h2⟩ := copyH_ok (k := 0) h
  obtain ⟨b2, hs2, hp, hi⟩ := mark_survives_or_is_harvested hs ht htot 0 h1 h2
  exact ⟨b2, hs2, hp, fun i hne => ⟨(hi i hne).1, (hi i hne).2.1⟩⟩

/-! ### `Bytes::write` -/

/-- `VolatileSlice::write` with `k` harvests between the store and the mark of its
    `copy_to_volatile_slice` -/
def writeH (m : Mem) (s : VSlice) (buf : List UInt8) (addr k : Nat) : Res (Mem × Nat) :=
  if buf.isEmpty then .ok (m, 0)
  else if addr ≥ s.size then .err .outOfBounds
  else do
    let s' ← s.offset addr
    copyH m s' buf (min s'.size buf.length) k

theorem writeH_zero (m : Mem) (s : VSlice) (buf : List UInt8) (addr : Nat) :
    writeH m s buf addr 0 = s.write m buf addr := rfl

/-- a `write` that stores something is the store phase followed by the mark phase of
    the sub-slice `s' = s.offset(addr)` with `n = min(s'.len, buf.len)` -/
theorem write_is_store_then_mark (m : Mem) (s : VSlice) (buf : List UInt8) (addr : Nat)
    (hne : buf.isEmpty = false) {m' : Mem} {n : Nat} (h : s.write m buf addr = .ok (m', n)) :
    ∃ s', s.offset addr = .ok s' ∧ n = min s'.size buf.length ∧
      s.write m buf addr =
        (do let m1 ← storePhase m s' buf n
            let m2 ← markPhase m1 s' n
            pure (m2, n)) := by
  unfold VSlice.write at h
  rw [if_neg (ne_true_of_eq_false hne)] at h
  split at h
  · cases h
  · rename_i hlt
    obtain ⟨s', hs', hc⟩ := (Res.bind_eq_ok _ _ _).1 h
    have hn : n = min s'.size buf.length := (copyH_ok (k := 0) hc).1
    refine ⟨s', hs', hn, ?_⟩
    unfold VSlice.write
    rw [if_neg (ne_true_of_eq_false hne), if_neg hlt, hs', hn, Res.bind_ok]
    exact copy_is_store_then_mark m s' buf _

/-- the empty buffer: nothing is stored, nothing needs a mark -/
theorem write_empty (m : Mem) (s : VSlice) (buf : List UInt8) (addr : Nat)
    (he : buf.isEmpty = true) : s.write m buf addr = .ok (m, 0) := by
  unfold VSlice.write; rw [if_pos he]

theorem writeH_ok {s : VSlice} {buf : List UInt8} {addr k n : Nat} {m' : Mem}
    (h : writeH m s buf addr k = .ok (m', n)) :
    (m' = m ∧ n = 0) ∨
    ∃ s' m1, s.offset addr = .ok s' ∧ n = min s'.size buf.length ∧
      storePhase m s' buf n = .ok m1 ∧ markPhase (Nat.repeat harvest k m1) s' n = .ok m' := by
  unfold writeH at h
  split at h
  · cases h
    exact .inl ⟨rfl, rfl⟩
  · split at h
    · cases h
    · obtain ⟨s', hs', hc⟩ := (Res.bind_eq_ok _ _ _).1 h
      obtain ⟨hn, m1, h1, h2⟩ := copyH_ok hc
      subst hn
      exact .inr ⟨s', m1, hs', rfl, h1, h2⟩

/-- `write` with any number of harvests between its store and its mark is sound -/
theorem write_sound_with_harvest (hs : Setting m b B0) {s : VSlice} (ht : Tracks m B0 (.sl s))
    {buf : List UInt8} {addr k n : Nat} {m' : Mem} (h : writeH m s buf addr k = .ok (m', n)) :
    ∀ i, m'.bytes[i]? ≠ m.bytes[i]? → dirty m' B0 i = true := by
  rcases writeH_ok h with ⟨rfl, -⟩ | ⟨s', m1, hs', hn, h1, h2⟩
  · exact fun i hne => absurd rfl hne
  · exact sound_with_harvests_between hs (C05.offset_tracks ht hs')
      (by rw [hn]; exact Nat.min_le_left _ _) k h1 h2

/-- in the phrasing of the phases: `s.write m buf addr` decomposed by
    `write_is_store_then_mark`, a harvest dropped between the two phases -/
theorem write_phases_sound_with_harvest (hs : Setting m b B0) {s s' : VSlice}
    (ht : Tracks m B0 (.sl s)) {buf : List UInt8} {addr : Nat} (hoff : s.offset addr = .ok s')
    {m1 m2 : Mem} (h1 : storePhase m s' buf (min s'.size buf.length) = .ok m1)
    (h2 : markPhase (harvest m1) s' (min s'.size buf.length) = .ok m2) :
    ∀ i, m2.bytes[i]? ≠ m.bytes[i]? → dirty m2 B0 i = true :=
  sound_with_harvest_between hs (C05.offset_tracks ht hoff) (Nat.min_le_left _ _) h1 h2

/-! ### `Bytes::write_slice` / `write_obj` (the container is returned also on `PartialBuffer`) -/

def writeSliceH (m : Mem) (s : VSlice) (buf : List UInt8) (addr k : Nat) : Mem × Res Unit :=
  match writeH m s buf addr k with
  | .ok (m', n) => if n ≠ buf.length then (m', .err (.partialBuffer buf.length n)) else (m', .ok ())
  | .err e => (m, .err e)
  | .panic => (m, .panic)

theorem writeSliceH_zero (m : Mem) (s : VSlice) (buf : List UInt8) (addr : Nat) :
    writeSliceH m s buf addr 0 = s.writeSlice m buf addr := rfl

theorem writeSlice_sound_with_harvest (hs : Setting m b B0) {s : VSlice} (ht : Tracks m B0 (.sl s))
    (buf : List UInt8) (addr k : Nat) :
    ∀ i, (writeSliceH m s buf addr k).1.bytes[i]? ≠ m.bytes[i]? →
      dirty (writeSliceH m s buf addr k).1 B0 i = true := by
  unfold writeSliceH
  cases hw : writeH m s buf addr k with
  | ok p =>
    have := write_sound_with_harvest hs ht hw
    simp only []
    split <;> exact this
  | err e => exact fun i hne => absurd rfl hne
  | panic => exact fun i hne => absurd rfl hne

/-! ### `VolatileRef::store` -/

/-- `VolatileRef::store` with `k` harvests between the packed write and `mark_dirty(0, len)` -/
def refStoreH (m : Mem) (r : VRef) (val : List UInt8) (k : Nat) : Res Mem := do
  let m1 ← storePhase m r.toSlice val r.ty.size
  markPhase (Nat.repeat harvest k m1) r.toSlice r.ty.size

theorem refStoreH_zero (m : Mem) (r : VRef) (val : List UInt8) :
    refStoreH m r val 0 = r.store m val := rfl

theorem refStore_is_store_then_mark (m : Mem) (r : VRef) (val : List UInt8) :
    r.store m val =
      (do let m1 ← storePhase m r.toSlice val r.ty.size
          markPhase m1 r.toSlice r.ty.size) := rfl

theorem refStore_sound_with_harvest (hs : Setting m b B0) {r : VRef} (ht : Tracks m B0 (.rf r))
    {val : List UInt8} {k : Nat} {m' : Mem} (h : refStoreH m r val k = .ok m') :
    ∀ i, m'.bytes[i]? ≠ m.bytes[i]? → dirty m' B0 i = true := by
  unfold refStoreH at h
  obtain ⟨m1, h1, h2⟩ := (Res.bind_eq_ok _ _ _).1 h
  exact sound_with_harvests_between hs (s := r.toSlice) ht (Nat.le_refl _) k h1 h2

/-! ### `VolatileArrayRef::store` -/

def arrStoreH (m : Mem) (a : VArr) (i : Nat) (val : List UInt8) (k : Nat) : Res Mem := do
  let r ← a.refAt i
  refStoreH m r val k

theorem arrStoreH_zero (m : Mem) (a : VArr) (i : Nat) (val : List UInt8) :
    arrStoreH m a i val 0 = a.store m i val := rfl

theorem arrStore_sound_with_harvest (hs : Setting m b B0) {a : VArr} (ht : Tracks m B0 (.ar a))
    {i : Nat} {val : List UInt8} {k : Nat} {m' : Mem} (h : arrStoreH m a i val k = .ok m') :
    ∀ j, m'.bytes[j]? ≠ m.bytes[j]? → dirty m' B0 j = true := by
  unfold arrStoreH at h
  obtain ⟨r, hr, h⟩ := (Res.bind_eq_ok _ _ _).1 h
  exact refStore_sound_with_harvest hs (C05.refAt_tracks ht hr) h

/-! ### `Bytes::store` (the mark is made on the parent slice at `addr`) -/

/-- `VolatileSlice::store::<T>` with `k` harvests between the atomic store and
    `self.bitmap.mark_dirty(addr, size_of::<T>())` -/
def storeH (m : Mem) (s : VSlice) (val : List UInt8) (t : Ty) (addr k : Nat) : Res Mem := do
  let p ← s.alignedRef addr t
  let m1 ← m.writeAt p (val.take t.size)
  (Nat.repeat harvest k m1).mark s.bmBase addr t.size

theorem storeH_zero (m : Mem) (s : VSlice) (val : List UInt8) (t : Ty) (addr : Nat) :
    storeH m s val t addr 0 = s.store m val t addr := rfl

theorem store_sound_with_harvest (hs : Setting m b B0) {s : VSlice} (ht : Tracks m B0 (.sl s))
    {val : List UInt8} {t : Ty} {addr k : Nat} {m' : Mem} (h : storeH m s val t addr k = .ok m') :
    ∀ i, m'.bytes[i]? ≠ m.bytes[i]? → dirty m' B0 i = true := by
  unfold storeH at h
  obtain ⟨p, hp, h⟩ := (Res.bind_eq_ok _ _ _).1 h
  obtain ⟨m1, h1, h2⟩ := (Res.bind_eq_ok _ _ _).1 h
  obtain ⟨-, a2, -, hpe⟩ := alignedRef_ok hp
  exact (store_harvest_mark_sound hs ht hpe a2 (List.length_take_le _ _) h1 h2).2

end ops

/-- the lifted theorem is not vacuous: on the container of §5 a `write` of `cSrc` at
    offset 5 of the root slice with one harvest between its phases succeeds, changes
    byte 5, and (by `write_sound_with_harvest`) leaves it dirty -/
theorem writeH_example :
    ∃ m', writeH cM cM.root cSrc 5 1 = .ok (m', 2) ∧ m'.bytes[5]? ≠ cM.bytes[5]? ∧
      dirty m' 0 5 = true := by
  have h : writeH cM cM.root cSrc 5 1 = .ok ({ cMb with bm := some ⟨[2#64], 4, 16, 4⟩ }, 2) := by
    decide +kernel
  exact ⟨_, h, by decide +kernel,
    write_sound_with_harvest cM_setting (C05.mem_root_tracks cM) h 5 (by decide +kernel)⟩

end VmMem.C05h

#print axioms VmMem.C05h.harvest_eq_reset
#print axioms VmMem.C05h.copy_is_store_then_mark
#print axioms VmMem.C05h.harvest_setting_explicit
#print axioms VmMem.C05h.harvest_setting
#print axioms VmMem.C05h.harvest_tracks
#print axioms VmMem.C05h.harvest_cleans
#print axioms VmMem.C05h.harvests_setting
#print axioms VmMem.C05h.harvests_tracks
#print axioms VmMem.C05h.effect_window_dirty
#print axioms VmMem.C05h.store_harvest_mark
#print axioms VmMem.C05h.store_harvest_mark_sound
#print axioms VmMem.C05h.sound_with_harvests_between
#print axioms VmMem.C05h.sound_with_harvest_between
#print axioms VmMem.C05h.sound_without_harvest
#print axioms VmMem.C05h.sound_with_harvests_before_and_between
#print axioms VmMem.C05h.harvestResult_spec
#print axioms VmMem.C05h.harvestResult_bit
#print axioms VmMem.C05h.harvestResult_dirty
#print axioms VmMem.C05h.mark_survives_or_is_harvested
#print axioms VmMem.C05h.final_dirty_or_harvested
#print axioms VmMem.C05h.copy_then_harvest
#print axioms VmMem.C05h.cM_setting
#print axioms VmMem.C05h.cS_tracks
#print axioms VmMem.C05h.mark_first_is_unsound
#print axioms VmMem.C05h.mark_first_is_unsound_run
#print axioms VmMem.C05h.orders_agree_sequentially
#print axioms VmMem.C05h.store_first_is_sound_here
#print axioms VmMem.C05h.copyH_zero
#print axioms VmMem.C05h.copy_sound_with_harvest
#print axioms VmMem.C05h.writeH_zero
#print axioms VmMem.C05h.write_is_store_then_mark
#print axioms VmMem.C05h.write_empty
#print axioms VmMem.C05h.writeH_ok
#print axioms VmMem.C05h.write_sound_with_harvest
#print axioms VmMem.C05h.write_phases_sound_with_harvest
#print axioms VmMem.C05h.writeSliceH_zero
#print axioms VmMem.C05h.writeSlice_sound_with_harvest
#print axioms VmMem.C05h.refStoreH_zero
#print axioms VmMem.C05h.refStore_is_store_then_mark
#print axioms VmMem.C05h.refStore_sound_with_harvest
#print axioms VmMem.C05h.arrStoreH_zero
#print axioms VmMem.C05h.arrStore_sound_with_harvest
#print axioms VmMem.C05h.storeH_zero
#print axioms VmMem.C05h.store_sound_with_harvest
#print axioms VmMem.C05h.writeH_example
