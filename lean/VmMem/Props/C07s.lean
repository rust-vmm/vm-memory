/-
  VmMem.Props.C07s — C07 below guest memory: the bitmap and slice families, the stream calls they
  rest on, and what is stated beside the families (documented panics, guards on VMM-chosen
  operands, build profiles, termination, `alignment`).  The overview of the property and the
  guest-memory family are in `VmMem.Props.C07`; both files fill the namespace `VmMem.C07`.
-/
import VmMem.Model.Copy
import VmMem.Lemmas.CopyLemmas
import VmMem.Props.C01
import VmMem.Props.C04
import VmMem.Props.C09
import VmMem.Props.C10
import VmMem.Props.C14
import VmMem.Props.C19
namespace VmMem
namespace C07
open VolatileLemmas IoLemmas

/-! ## vocabulary -/

/-- forget the value of a result: only `ok / err / panic` matters here -/
def void {α : Type} : Res α → Res Unit
  | .ok _ => .ok ()
  | .err e => .err e
  | .panic => .panic

@[simp] theorem void_isPanic {α : Type} (x : Res α) : (void x).isPanic = x.isPanic := by
  cases x <;> rfl

theorem isPanic_false_iff {α : Type} (x : Res α) : x.isPanic = false ↔ x ≠ .panic := by
  cases x <;> simp [Res.isPanic]

theorem isPanic_of_ok {α : Type} {x : Res α} {a : α} (h : x = .ok a) : x.isPanic = false := by
  rw [h]; rfl

theorem isPanic_of_err {α : Type} {x : Res α} {e : Err} (h : x = .err e) : x.isPanic = false := by
  rw [h]; rfl

theorem np {α : Type} {x : Res α} (h : x ≠ .panic) : (void x).isPanic = false :=
  (void_isPanic x).trans ((isPanic_false_iff x).2 h)

theorem np_ok {α : Type} {x : Res α} {a : α} (h : x = .ok a) : (void x).isPanic = false :=
  (void_isPanic x).trans (isPanic_of_ok h)

theorem np_ex {α : Type} {x : Res α} (h : ∃ a, x = .ok a) : (void x).isPanic = false :=
  h.elim fun _ => np_ok

theorem np_err {α : Type} {x : Res α} {e : Err} (h : x = .err e) : (void x).isPanic = false :=
  (void_isPanic x).trans (isPanic_of_err h)

theorem addP_eq_panic (a b : Nat) : addP a b = .panic ↔ U ≤ a + b := by
  unfold addP
  by_cases h : a + b < U
  · rw [if_pos h]; simp; omega
  · rw [if_neg h]; simp; omega

theorem bind_pure_eq_panic {α β : Type} (x : Res α) (g : α → β) :
    (x >>= fun a => pure (g a)) = .panic ↔ x = .panic := by
  cases x <;> simp

/-! ## streams: one call, `retry_eintr!`, the exact loops — every kind, every script -/

structure Keeps (m m' : Mem) : Prop where
  base : m'.base = m.base
  len : m'.bytes.length = m.bytes.length
  bm : BmInv m'

theorem Keeps.refl {m : Mem} (h : BmInv m) : Keeps m m := ⟨rfl, rfl, h⟩
theorem Keeps.of_moved {r r' : Reader} {m m' : Mem} {o k : Nat} (h : Reader.Moved r m o r' m' k)
    (ho : o + k ≤ m.bytes.length) : Keeps m m' := ⟨h.base, h.length ho, h.bm⟩

theorem ne_panic_of_keeps {σ α : Type} {m : Mem} {out : Mem × σ × Res α}
    (h : ∃ m' st res, out = (m', st, res) ∧ res ≠ .panic ∧ Keeps m m') : out.2.2 ≠ .panic := by
  obtain ⟨_, _, _, e, hnp, _⟩ := h
  rw [e]
  exact hnp

theorem readVolatile_safe (r : Reader) (m : Mem) (s : VSlice) (hbm : BmInv m) (hin : InB m s) :
    ∃ m' r' res, r.readVolatile m s = (m', r', res) ∧ res ≠ .panic ∧ Keeps m m' ∧
      ∀ n, res = .ok n → n ≤ s.size := by
  cases hx : xfer (hd r.script) s.size r.avail.length with
  | some n =>
    obtain ⟨m', h, hmv⟩ := Reader.readVolatile_moved hbm hin hx
    have hn := (xfer_le hx).1
    exact ⟨m', _, _, h, by simp, .of_moved hmv (hin.fits hn), fun k hk => by cases hk; exact hn⟩
  | none =>
    obtain ⟨m', h, hmv, _⟩ := Reader.readVolatile_failed s hbm hx
    exact ⟨m', _, _, h, by simp, .of_moved hmv (hin.fits (Nat.zero_le _)), nofun⟩

theorem readRetry_safe (r : Reader) (m : Mem) (s : VSlice) (hbm : BmInv m) (hin : InB m s) :
    ∃ m' r' res, r.readRetry m s = (m', r', res) ∧ res ≠ .panic ∧ Keeps m m' ∧
      ∀ n, res = .ok n → n ≤ s.size := by
  obtain ⟨m', r', x, h, ⟨n, hx, _, rfl, hmv⟩ | ⟨_, _, rfl, hmv⟩⟩ := Reader.readRetry_moved r hbm hin
  · have hn := (xfer_le hx).1
    exact ⟨m', r', _, h, by simp, .of_moved hmv (hin.fits hn), fun k hk => by cases hk; exact hn⟩
  · exact ⟨m', r', _, h, by simp, .of_moved hmv (hin.fits (Nat.zero_le _)), nofun⟩

/-- No `< 2^64` strictness is needed: at an allocation ending exactly at `2^64` the loop returns
    the `Overflow` *error* of `VolatileSlice::offset`, see `C14.offset_at_top_overflows`. -/
theorem readExactLoop_safe (fuel : Nat) (r : Reader) (m : Mem) (p : VSlice) (hbm : BmInv m)
    (hin : InB m p) (hf : p.size < fuel) :
    ∃ m' r' res, r.readExactLoop fuel m p = (m', r', res) ∧ res ≠ .panic ∧ Keeps m m' := by
  obtain ⟨m', r', res, k, h, hk, hmv, hres⟩ := Reader.readExactLoop_spec fuel r m p hbm hin hf
  refine ⟨m', r', res, h, ?_, .of_moved hmv (hin.fits hk)⟩
  rcases hres with ⟨rfl, _⟩ | ⟨_, rfl | ⟨e, rfl, _⟩⟩ | ⟨rfl, _⟩
  all_goals simp

theorem readExact_safe (r : Reader) (m : Mem) (s : VSlice) (hbm : BmInv m) (hin : InB m s) :
    ∃ m' r' res, r.readExact m s = (m', r', res) ∧ res ≠ .panic ∧ Keeps m m' := by
  by_cases hk : r.kind = .slice ∨ r.kind = .cursor
  · rw [Reader.readExact_override r m s hk]
    by_cases hsz : s.size > r.avail.length
    · rw [if_pos hsz]
      exact ⟨m, r, _, rfl, by simp, Keeps.refl hbm⟩
    · rw [if_neg hsz]
      obtain ⟨m1, r1, res1, h1, hnp1, hk1, _⟩ := readVolatile_safe r m s hbm hin
      rw [h1]
      cases res1 with
      | ok n => exact ⟨m1, r1, _, rfl, by simp, hk1⟩
      | err e => exact ⟨m1, r1, _, rfl, by simp, hk1⟩
      | panic => exact absurd rfl hnp1
  · unfold Reader.readExact
    split
    · exact absurd (.inl ‹_›) hk
    · exact absurd (.inr ‹_›) hk
    · split
      · rename_i p hp
        refine readExactLoop_safe _ r m p hbm (hin.offset hp) ?_
        rw [(offset_ok hp).2.2.2.1]
        exact Nat.lt_succ_of_le (Nat.sub_le _ _)
      · exact ⟨m, r, _, rfl, by simp, Keeps.refl hbm⟩
      · exact absurd ‹_› (offset_ne_panic s 0)

theorem writeVolatile_safe (w : Writer) (m : Mem) (s : VSlice) (hin : InB m s) :
    (w.writeVolatile m s).2 ≠ .panic := by
  rcases C14.writeVolatile_cases w m s hin with ⟨n, h, _⟩ | ⟨k, h, _⟩ <;> rw [h] <;> simp

theorem writeRetry_safe (w : Writer) (m : Mem) (s : VSlice) (hin : InB m s) :
    (w.writeRetry m s).2 ≠ .panic := by
  rw [Writer.writeRetry_drop_eintr]
  exact writeVolatile_safe _ m s hin

theorem writeAllLoop_safe (fuel : Nat) (w : Writer) (m : Mem) (p : VSlice) (hin : InB m p)
    (hf : p.size < fuel) : (w.writeAllLoop fuel m p).2 ≠ .panic := by
  obtain ⟨w', res, k, h, _, _, hres⟩ := Writer.writeAllLoop_spec fuel w m p hin hf
  rw [h]
  rcases hres with ⟨rfl, _⟩ | ⟨_, rfl | ⟨e, rfl, _⟩⟩ | ⟨rfl, _⟩
  all_goals simp

theorem writeAll_safe (w : Writer) (m : Mem) (s : VSlice) (hin : InB m s) :
    (w.writeAll m s).2 ≠ .panic := by
  unfold Writer.writeAll
  split
  · have hnp := writeVolatile_safe w m s hin
    generalize w.writeVolatile m s = x at hnp ⊢
    obtain ⟨w1, n | e | _⟩ := x
    · simp only; split <;> simp
    · simp
    · exact absurd rfl hnp
  · split
    · rename_i p hp
      refine writeAllLoop_safe _ w m p (hin.offset hp) ?_
      rw [(offset_ok hp).2.2.2.1]
      exact Nat.lt_succ_of_le (Nat.sub_le _ _)
    · simp
    · exact absurd ‹_› (offset_ne_panic s 0)

/-! ### the four stream forms of `Bytes<usize> for VolatileSlice` — any `addr`, any `count` -/

/-- the window of the two up-to forms, `self.offset(addr)?.subslice(0, min(len, count)).unwrap()`:
    `offset` may refuse; the `unwrap` never fails, and the window lies where the slice lies -/
theorem window_cases (s : VSlice) (addr count : Nat) (hsz : s.size < U) :
    (∃ e, s.offset addr = .err e) ∨
    ∃ s1 s2, s.offset addr = .ok s1 ∧
      Res.unwrapRes (s1.subslice 0 (min s1.size count)) = .ok s2 ∧ ∀ m, InB m s → InB m s2 := by
  cases h : s.offset addr with
  | err e => exact .inl ⟨e, rfl⟩
  | panic => exact absurd h (offset_ne_panic s addr)
  | ok s1 =>
    have hlt : s1.size < U := by
      rw [(offset_ok h).2.2.2.1]
      exact Nat.lt_of_le_of_lt (Nat.sub_le _ _) hsz
    have hle : 0 + min s1.size count ≤ s1.size := by
      rw [Nat.zero_add]
      exact Nat.min_le_left _ _
    have h2 : s1.subslice 0 (min s1.size count) =
        .ok ⟨s1.addr + 0, min s1.size count, sliceAt s1.bmBase 0⟩ :=
      subslice_of (Nat.lt_of_le_of_lt hle hlt) hle
    exact .inr ⟨s1, _, rfl, by rw [h2]; rfl, fun m hin => (hin.offset h).subslice h2⟩

theorem slice_readVolatileFrom_safe (m : Mem) (s : VSlice) (addr : Nat) (r : Reader) (count : Nat)
    (hbm : BmInv m) (hin : InB m s) (hsz : s.size < U) :
    ∃ m' r' res, s.readVolatileFrom m addr r count = (m', r', res) ∧ res ≠ .panic ∧ Keeps m m' := by
  unfold VSlice.readVolatileFrom
  rcases window_cases s addr count hsz with ⟨e, h⟩ | ⟨s1, s2, h1, h2, hin2⟩
  · rw [h]; exact ⟨m, r, _, rfl, by simp, Keeps.refl hbm⟩
  · rw [h1]; simp only [h2]
    obtain ⟨m1, r1, res1, h, hnp, hk, _⟩ := readRetry_safe r m s2 hbm (hin2 m hin)
    exact ⟨m1, r1, res1, h, hnp, hk⟩

theorem slice_readExactVolatileFrom_safe (m : Mem) (s : VSlice) (addr : Nat) (r : Reader)
    (count : Nat) (hbm : BmInv m) (hin : InB m s) :
    ∃ m' r' res, s.readExactVolatileFrom m addr r count = (m', r', res) ∧ res ≠ .panic ∧
      Keeps m m' := by
  unfold VSlice.readExactVolatileFrom
  split
  · exact readExact_safe r m _ hbm (hin.subslice ‹_›)
  · exact ⟨m, r, _, rfl, by simp, Keeps.refl hbm⟩
  · exact absurd ‹_› (subslice_ne_panic s addr count)

theorem slice_writeVolatileTo_safe (m : Mem) (s : VSlice) (addr : Nat) (w : Writer) (count : Nat)
    (hin : InB m s) (hsz : s.size < U) : (s.writeVolatileTo m addr w count).2 ≠ .panic := by
  unfold VSlice.writeVolatileTo
  rcases window_cases s addr count hsz with ⟨e, h⟩ | ⟨s1, s2, h1, h2, hin2⟩
  · rw [h]; simp
  · rw [h1]; simp only [h2]
    exact writeRetry_safe w m s2 (hin2 m hin)

theorem slice_writeAllVolatileTo_safe (m : Mem) (s : VSlice) (addr : Nat) (w : Writer)
    (count : Nat) (hin : InB m s) : (s.writeAllVolatileTo m addr w count).2 ≠ .panic := by
  unfold VSlice.writeAllVolatileTo
  split
  · exact writeAll_safe w m _ (hin.subslice ‹_›)
  · simp
  · exact absurd ‹_› (subslice_ne_panic s addr count)

/-! ## family 1: the dirty bitmap (`AtomicBitmap`, `BaseSlice`) -/

/-- every query / update of the tracking bitmap, with its (guest-derived) operands -/
inductive BitmapReq where
  | mark (start len : Nat)          -- `set_addr_range`
  | clear (start len : Nat)         -- `reset_addr_range`
  | setBit (i : Nat)
  | resetBit (i : Nat)
  | isBitSet (i : Nat)
  | isAddrSet (a : Nat)
  | markVia (base off len : Nat)    -- `BaseSlice::mark_dirty` (`wrapping_add`)
  | dirtyVia (base off : Nat)       -- `BaseSlice::dirty_at`
  deriving Repr, DecidableEq

def runBitmap (b : ABitmap) : BitmapReq → Res Unit
  | .mark start len => void (b.setResetAddrRange start len true)
  | .clear start len => void (b.setResetAddrRange start len false)
  | .setBit i => void (b.setResetBit i true)
  | .resetBit i => void (b.setResetBit i false)
  | .isBitSet i => void (b.isBitSet i)
  | .isAddrSet a => void (b.isAddrSet a)
  | .markVia base off len => void (markVia b base off len)
  | .dirtyVia base off => void (dirtyVia b base off)

/-- Under the representation invariant of `AtomicBitmap` (what
    `new` establishes and every operation keeps, `C09.inv_history`) no bitmap entry point panics,
    for ANY operands — no bound whatsoever (offsets beyond the tracked range are ignored,
    `start + len - 1` saturates, the slice offset wraps). -/
theorem no_panic_bitmap (b : ABitmap) (h : C09.Inv b) :
    ∀ req : BitmapReq, (runBitmap b req).isPanic = false := by
  intro req
  cases req with
  | mark start len => exact np_ex (C09.mark_ok b h start len)
  | clear start len => exact np_ex (C09.clear_ok b h start len)
  | setBit i => exact np_ex (C09.bit_ok b h i true)
  | resetBit i => exact np_ex (C09.bit_ok b h i false)
  | isBitSet i => exact np_ex (C09.isBitSet_ok b h i)
  | isAddrSet a => exact np_ex (C09.isAddrSet_ok b h a)
  | markVia base off len =>
    obtain ⟨_, e, _⟩ := C09.markVia_bits b h base off len; exact np_ok e
  | dirtyVia base off =>
    obtain ⟨_, e⟩ := C09.isAddrSet_ok b h ((base + off) % U)
    exact np_ok ((C09.dirtyVia_spec b base off).trans e)

/-! ## family 2: a `VolatileSlice` inside a container -/

/-- every access / derivation entry point of a `VolatileSlice`, with its operands -/
inductive SliceReq where
  | subslice (off cnt : Nat)
  | offset (cnt : Nat)
  | splitAt (mid : Nat)
  | getRef (off : Nat) (t : Ty)
  | getArrayRef (off n : Nat) (t : Ty)
  | alignedRef (off : Nat) (t : Ty)           -- `aligned_as_ref/_mut`, `get_atomic_ref`
  | write (buf : List UInt8) (addr : Nat)
  | read (len addr : Nat)
  | writeSlice (buf : List UInt8) (addr : Nat)
  | readSlice (len addr : Nat)
  | writeObj (val : List UInt8) (addr : Nat)
  | readObj (t : Ty) (addr : Nat)
  | store (val : List UInt8) (t : Ty) (addr : Nat)
  | load (t : Ty) (addr : Nat)
  | copyTo (t : Ty) (blen : Nat)
  | copyFrom (t : Ty) (blen : Nat) (buf : List UInt8)
  | readVolatileFrom (addr : Nat) (r : Reader) (count : Nat)
  | readExactVolatileFrom (addr : Nat) (r : Reader) (count : Nat)
  | writeVolatileTo (addr : Nat) (w : Writer) (count : Nat)
  | writeAllVolatileTo (addr : Nat) (w : Writer) (count : Nat)
  deriving Repr, DecidableEq

def runSlice (m : Mem) (s : VSlice) : SliceReq → Res Unit
  | .subslice off cnt => void (s.subslice off cnt)
  | .offset cnt => void (s.offset cnt)
  | .splitAt mid => void (s.splitAt mid)
  | .getRef off t => void (s.getRef off t)
  | .getArrayRef off n t => void (s.getArrayRef off n t)
  | .alignedRef off t => void (s.alignedRef off t)
  | .write buf addr => void (s.write m buf addr)
  | .read len addr => void (s.read m len addr)
  | .writeSlice buf addr => (s.writeSlice m buf addr).2
  | .readSlice len addr => void (s.readSlice m len addr)
  | .writeObj val addr => (s.writeObj m val addr).2
  | .readObj t addr => void (s.readObj m t addr)
  | .store val t addr => void (s.store m val t addr)
  | .load t addr => void (s.load m t addr)
  | .copyTo t blen => void (s.copyTo m t blen)
  | .copyFrom t blen buf => void (s.copyFrom m t blen buf)
  | .readVolatileFrom addr r count => void (s.readVolatileFrom m addr r count).2.2
  | .readExactVolatileFrom addr r count => (s.readExactVolatileFrom m addr r count).2.2
  | .writeVolatileTo addr w count => void (s.writeVolatileTo m addr w count).2
  | .writeAllVolatileTo addr w count => (s.writeAllVolatileTo m addr w count).2

/-- The only guards in this family are on the two typed bulk copies `copy_to::<T>` /
    `copy_from::<T>`, and neither is guest data:
    * `s.size ≤ isize::MAX` — a property of the slice (every Rust allocation satisfies it);
    * for a zero-sized `T`, `blen ≤ isize::MAX` — `blen` is the length of a VMM-side `&[T]`
      buffer chosen by the VMM; with a ZST and `blen > isize::MAX` the crate's
      `get_array_ref(0, blen).unwrap()` does panic (`oversized_zst_guard`).
    Every other request — every address, offset, count, length, type, stream kind and fault
    script — is unconstrained. -/
def SliceReq.Valid (s : VSlice) : SliceReq → Prop
  | .copyTo t blen => s.size ≤ ISIZE_MAX ∧ (t.size = 0 → blen ≤ ISIZE_MAX)
  | .copyFrom t blen _ => s.size ≤ ISIZE_MAX ∧ (t.size = 0 → blen ≤ ISIZE_MAX)
  | _ => True

/-- For a slice inside a container whose tracking bitmap (if any) is
    sane (`BmInv`, `MemWF`, `Inside`: what the constructors give and every operation keeps,
    `C04.history`), no entry point panics for ANY operand values: a misfit is an error value
    (`OutOfBounds`, `Overflow`, `TooBig`, `Misaligned`, `PartialBuffer`, an I/O error), never a
    panic and — `Mem.readAt/writeAt` report an access outside the container as `panic` — never an
    out-of-bounds access.  Streams: any kind (also raw descriptors), any fault script. -/
theorem no_panic_slice (m : Mem) (s : VSlice) (hinv : DataLemmas.BmInv m) (hwf : C04.MemWF m)
    (hin : C04.Inside m s) :
    ∀ req : SliceReq, req.Valid s → (runSlice m s req).isPanic = false := by
  have hsz := hin.size_lt hwf
  have hinB : InB m s := hin
  intro req hv
  cases req with
  | subslice off cnt => exact np (subslice_ne_panic s off cnt)
  | offset cnt => exact np (offset_ne_panic s cnt)
  | splitAt mid => exact np (splitAt_ne_panic s mid)
  | getRef off t => exact np (getRef_ne_panic s off t)
  | getArrayRef off n t => exact np (getArrayRef_ne_panic s off n t)
  | alignedRef off t => exact np (alignedRef_ne_panic s off t)
  | write buf addr => exact np (C04.write_no_panic m s buf addr hinv hwf hin)
  | read len addr => exact np (C04.read_no_panic m s len addr hwf hin)
  | writeSlice buf addr =>
    exact (isPanic_false_iff _).2 (C04.writeSlice_no_panic m s buf addr hinv hwf hin)
  | readSlice len addr => exact np (C04.readSlice_no_panic m s len addr hwf hin)
  | writeObj val addr =>
    exact (isPanic_false_iff _).2 (C04.writeSlice_no_panic m s val addr hinv hwf hin)
  | readObj t addr => exact np (C04.readSlice_no_panic m s t.size addr hwf hin)
  | store val t addr => exact np (C04.store_no_panic m s val t addr hinv hwf hin)
  | load t addr => exact np (C04.load_no_panic m s t addr hwf hin)
  | copyTo t blen =>
    exact np_ok (C04.copyTo_ok m s t blen hwf hin hv.1 hv.2)
  | copyFrom t blen buf =>
    obtain ⟨_, e, _⟩ := C04.copyFrom_ok m s t blen buf hinv hwf hin hv.1 hv.2
    exact np_ok e
  | readVolatileFrom addr r count =>
    exact np (ne_panic_of_keeps (slice_readVolatileFrom_safe m s addr r count hinv hinB hsz))
  | readExactVolatileFrom addr r count =>
    exact (isPanic_false_iff _).2
      (ne_panic_of_keeps (slice_readExactVolatileFrom_safe m s addr r count hinv hinB))
  | writeVolatileTo addr w count => exact np (slice_writeVolatileTo_safe m s addr w count hinB hsz)
  | writeAllVolatileTo addr w count =>
    exact (isPanic_false_iff _).2 (slice_writeAllVolatileTo_safe m s addr w count hinB)

/-! ## the documented, program-logic panics — stated exactly

  These are the crate's documented `assert!`s on a VMM-supplied *index* (not a guest address):
  `VolatileArrayRef::ref_at / load / store` panic iff `index ≥ len`.  They are outside the three
  request families (bitmap and slice above, guest memory in `Props/C07`: no guest-controlled operand reaches them: the guest-facing entry points take
  addresses and lengths, and a misfit there is an error value). -/

theorem documented_panics (m : Mem) (a : VArr) (i : Nat) (val : List UInt8)
    (hinv : DataLemmas.BmInv m) (hwf : C04.MemWF m) (hin : C04.AInside m a)
    (hacc : (C01.Acc.ar a).WF) :
    (a.refAt i = .panic ↔ a.nelem ≤ i) ∧
    (a.store m i val = .panic ↔ a.nelem ≤ i) ∧
    (a.load m i = .panic ↔ a.nelem ≤ i) :=
  ⟨C01.refAt_panics_iff a hacc i, C04.arr_store_panic_iff m a i val hinv hwf hin,
   C04.arr_load_panic_iff m a i hwf hin⟩

/-! ## guards that are NOT guest-controlled, as explicit theorems -/

/-- `AtomicBitmap::enlarge(additional)` — called by the VMM on memory
    hot-plug with a VMM-chosen size — panics (in a build with overflow checks) iff
    `byte_size + additional` does not fit a `usize`, and for no other reason. -/
theorem enlarge_guard (b : ABitmap) (add : Nat) :
    b.enlarge add = .panic ↔ U ≤ b.byteSize + add := by
  unfold ABitmap.enlarge
  rw [bind_pure_eq_panic, addP_eq_panic]

theorem enlarge_fits (b : ABitmap) (h : C09.Inv b) (add : Nat) (hfit : b.byteSize + add < U) :
    ∃ b', b.enlarge add = .ok b' ∧ C09.Inv b' ∧ ∀ p, b'.bit p = b.bit p := by
  obtain ⟨b', e, hi, _, _, _, hb⟩ := C09.enlarge_spec b h add hfit
  exact ⟨b', e, hi, hb⟩

/-- `GuestMemoryRegion::last_addr` is `start + (len - 1)` with plain
    arithmetic: it panics exactly for an empty region or a region ending beyond `2^64 - 1`.
    Both are excluded by `WF` (a mapping of length 0 cannot be created, `GuestRegionMmap::new`
    checks `start.checked_add(len)`); the model's constructors would accept an empty region and
    then `from_regions` panics: `C10.zero_len_panics`. -/
theorem zero_len_region_guard (r : Region) :
    r.lastAddr = .panic ↔ r.len = 0 ∨ U ≤ r.start + (r.len - 1) := by
  unfold Region.lastAddr subP
  by_cases h1 : 1 ≤ r.len
  · rw [if_pos h1, Res.bind_ok, addP_eq_panic]
    exact ⟨.inr, fun h => h.resolve_left (Nat.ne_of_gt h1)⟩
  · rw [if_neg h1]
    exact ⟨fun _ => .inl (Nat.eq_zero_of_not_pos h1), fun _ => rfl⟩

theorem zero_len_region_example :
    GMem.fromRegions [C10.reg 7 0 9, C10.reg 8 1 1] = .panic := C10.zero_len_panics

/-- `copy_to::<T>` for a zero-sized `T` (`C04.copyTo_zst_too_big`)
    into a VMM buffer of more than `isize::MAX` elements panics
    (`get_array_ref(0, buf.len()).unwrap()` on `TooBig`).  The buffer length is chosen by the VMM;
    this is the guard `SliceReq.Valid` carries. -/
theorem oversized_zst_guard (m : Mem) (s : VSlice) (t : Ty) (blen : Nat) (h0 : t.size = 0)
    (hb : ISIZE_MAX < blen) : s.copyTo m t blen = .panic :=
  C04.copyTo_zst_too_big m s t blen h0 hb

/-! ## build profiles

  The model's plain `+ - * /` primitives (`addP subP mulP divP`, `Res.unwrap`, indexing) take
  the *checked* reading: overflow / `None` / out of range is `.panic`.  "The two build profiles
  agree on every entry point" is therefore the statement that no such primitive reaches its
  failure branch, i.e. exactly `no_panic_bitmap`, `no_panic_slice`, `no_panic_guest`.

  The only model primitives that take the profile as a *parameter* are
  `Addr.uncheckedAdd / uncheckedSub / uncheckedAlignUp chk` (address.rs) and the pair
  `ABitmap.enlarge` / `ABitmap.enlargeUnchecked`.  None of them is called by any entry point of
  the three families: `runBitmap`, `runSlice`, `runGuest` take no profile argument.  For these
  primitives themselves: -/

/-- whenever the mathematical result fits, the checked and the
    unchecked build compute the same thing (and otherwise they differ exactly as
    `C19.uncheckedAdd_overflow_checked/_wrapping`, `enlarge_guard` say). -/
theorem profiles_agree (a b : Word) :
    (a.toNat + b.toNat < U → Addr.uncheckedAdd true a b = Addr.uncheckedAdd false a b) ∧
    (b.toNat ≤ a.toNat → Addr.uncheckedSub true a b = Addr.uncheckedSub false a b) ∧
    (∀ p : Word, C19.IsPow2 p → a.toNat + p.toNat - 1 < U →
      Addr.uncheckedAlignUp true a p = Addr.uncheckedAlignUp false a p) ∧
    (∀ (bm : ABitmap) (add : Nat), bm.byteSize + add < U →
      bm.enlarge add = .ok (bm.enlargeUnchecked add)) := by
  refine ⟨fun h => ?_, fun h => ?_, fun p hp hfit => ?_, fun bm add h => ?_⟩
  · simp [Addr.uncheckedAdd, h]
  · simp [Addr.uncheckedSub, h]
  · obtain ⟨r, -, h2, -⟩ := C19.alignUp_fits hp hfit
    rw [h2 true, h2 false]
  · simp [ABitmap.enlarge, ABitmap.enlargeUnchecked, addP, wrappingAdd, h, Nat.mod_eq_of_lt h]

/-! ## termination ("does not loop without end")

  Termination is by construction: every function of the model is a total Lean function, accepted
  by the kernel with an explicit measure —
    * `GMem.tryAccessLoop`   : `termination_by count - total` (each continuing iteration has
                               `total + n < count` with `n ≥ 1`);
    * `ABitmap.rangeSteps`   : `termination_by size - n`;
    * `copyLoop`             : `termination_by left` (`left ≥ w > 0`);
    * `Reader.readRetry`, `Writer.writeRetry` (`retry_eintr!`): `termination_by script.length`
                               (each retry consumes one script entry; an exhausted script never
                               interrupts);
    * `Reader.readExactLoop`, `Writer.writeAllLoop` : structural recursion on `fuel`, running out
                               of fuel being reported as `.panic`; the theorems below show that
                               the fuel `size + 1` the model passes never runs out: every
                               continuing iteration consumed ≥ 1 byte;
    * everything else is non-recursive or structural on a list (`runAll`, `validatePairs`,
      `insertSorted`, `List.foldlM` in `last_addr`).
  Hence for every request of the three families the run is a finite computation whose result is
  `ok` or `err` (`no_panic_*`). -/

/-- the fuel of the default `read_exact_volatile` loop never runs out: every reader kind, containers ending exactly
    at `2^64` included (`C14.readExactLoop_fuel` without its two idle hypotheses) -/
theorem readExactLoop_fuel (r : Reader) (m : Mem) (p : VSlice) (hbm : BmInv m) (hin : InB m p) :
    (r.readExactLoop (p.size + 1) m p).2.2 ≠ .panic :=
  ne_panic_of_keeps (readExactLoop_safe (p.size + 1) r m p hbm hin (Nat.lt_succ_self _))

/-- the same for the default `write_all_volatile` loop, every sink -/
theorem writeAllLoop_fuel (w : Writer) (m : Mem) (p : VSlice) (hin : InB m p) :
    (w.writeAllLoop (p.size + 1) m p).2 ≠ .panic :=
  writeAllLoop_safe (p.size + 1) w m p hin (Nat.lt_succ_self _)

theorem readExactLoop_fuel_C14 (r : Reader) (m : Mem) (p : VSlice) (hk : r.kind ≠ .fd)
    (hbm : BmInv m) (hin : InB m p) (hU : m.base + m.bytes.length < U) :
    (r.readExactLoop (p.size + 1) m p).2.2 ≠ .panic := C14.readExactLoop_fuel r m p hk hbm hin hU

/-! ## the hypotheses are needed / non-vacuity -/

/-- without the bitmap invariant a plain in-range one-byte write can panic
    (`C04.write_needs_BmInv`): `BmInv` is what the constructors establish and all operations
    keep, not a restriction on the guest — and it cannot be dropped from `no_panic_slice` -/
theorem bitmap_invariant_needed :
    (runSlice ⟨0x1003, List.replicate 13 0, some C04.badBm⟩ (VSlice.mk 0x1003 13 0)
      (.write [7] 0)).isPanic = true :=
  congrArg (fun x => (void x).isPanic) C04.write_needs_BmInv

/-! ### `alignment` (volatile_memory.rs) — defect D8 and its repair (2fc7148)

`alignment(addr)` was `addr & (!addr + 1)`: a plain `+`, which overflows exactly when `addr = 0`.
A zero-length access at offset 0 of an on-demand Xen grant region reaches it with the region's null
base pointer.  After the repair it is `addr & addr.wrapping_neg()`, which is what the model's
`alignment` on `BitVec 64` computes for every word: total, no overflow branch left. -/
/-- the function as it stood: `!addr` on a 64-bit word is `U - 1 - addr`; then a plain `+ 1` -/
def alignmentBeforeFix (a : Nat) : Res Nat := do
  let n ← addP (U - 1 - a) 1
  pure (a &&& n)

theorem alignmentBeforeFix_panics_iff (a : Nat) (h : a < U) : alignmentBeforeFix a = .panic ↔ a = 0 := by
  unfold alignmentBeforeFix
  rw [bind_pure_eq_panic, addP_eq_panic]
  omega

/-- the repaired function wraps: at the null address it is 0 (so every width pass of
    `copy_slice_volatile` is skipped) and it never panics -/
theorem alignment_null : alignment 0 = 0 := CopyLemmas.alignment_zero

theorem alignment_wraps (a : BitVec 64) : alignment a = a &&& (-a) :=
  CopyLemmas.alignment_eq_and_neg a

/-- a copy of zero bytes issues no access whatever the two addresses are (null included) -/
theorem copyPlan_zero (src dst : BitVec 64) : copyPlan src dst 0 = [] := by
  rw [CopyLemmas.copyPlan_eq_passes]
  exact CopyLemmas.passes_zero _ _ (by decide) 0

#print axioms bitmap_invariant_needed
#print axioms no_panic_bitmap
#print axioms no_panic_slice
#print axioms documented_panics
#print axioms enlarge_guard
#print axioms enlarge_fits
#print axioms zero_len_region_guard
#print axioms zero_len_region_example
#print axioms oversized_zst_guard
#print axioms profiles_agree
#print axioms readExactLoop_fuel
#print axioms writeAllLoop_fuel
#print axioms readExactLoop_fuel_C14
#print axioms readVolatile_safe
#print axioms readRetry_safe
#print axioms readExactLoop_safe
#print axioms readExact_safe
#print axioms writeAll_safe
#print axioms slice_readVolatileFrom_safe
#print axioms slice_readExactVolatileFrom_safe
#print axioms slice_writeVolatileTo_safe
#print axioms slice_writeAllVolatileTo_safe

end C07
end VmMem
#print axioms VmMem.C07.alignmentBeforeFix_panics_iff
#print axioms VmMem.C07.alignment_null
#print axioms VmMem.C07.alignment_wraps
#print axioms VmMem.C07.copyPlan_zero
