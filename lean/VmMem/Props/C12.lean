/-
  VmMem.Props.C12 — a mapping lives exactly as long as something can still reach it.

  `Inv` holds in the empty state and is preserved by every operation (`step_inv`), hence
  after every history (`run_inv`).  Corollaries: no live handle designates an unmapped
  region (`no_dangling`); once every handle is gone every owned mapping has been unmapped
  exactly once (`no_leak`); externally provided mappings are never unmapped
  (`external_untouched`).
-/
import VmMem.Model.Lifetime
import VmMem.Lemmas.LifetimeLemmas
namespace VmMem.C12
open VmMem VmMem.Lifetime

structure Inv (s : St) : Prop where
  rid_nodup : (s.maps.map (·.rid)).Nodup
  hid_nodup : (s.handles.map (·.hid)).Nodup
  refs_exist : ∀ h ∈ s.handles, ∀ r ∈ h.refs, ∃ m ∈ s.maps, m.rid = r
  owned_mapped_iff : ∀ m ∈ s.maps, m.owned = true → (m.mapped = true ↔ refcount s m.rid > 0)
  unmaps_le_one : ∀ m ∈ s.maps, m.unmaps ≤ 1
  unmapped_iff : ∀ m ∈ s.maps, m.owned = true → (m.unmaps = 1 ↔ m.mapped = false)
  external_never : ∀ m ∈ s.maps, m.owned = false → m.unmaps = 0 ∧ m.mapped = true

theorem init_inv : Inv {} := by
  constructor <;> simp

/-- the per-mapping part of `Inv`, with "is still referenced" as a parameter -/
structure Settled (live : Prop) (m : Mapping) : Prop where
  owned_mapped_iff : m.owned = true → (m.mapped = true ↔ live)
  unmaps_le_one : m.unmaps ≤ 1
  unmapped_iff : m.owned = true → (m.unmaps = 1 ↔ m.mapped = false)
  external_never : m.owned = false → m.unmaps = 0 ∧ m.mapped = true

theorem Inv.settled {s : St} (h : Inv s) (m : Mapping) (hm : m ∈ s.maps) : Settled (refcount s m.rid > 0) m :=
  ⟨h.owned_mapped_iff m hm, h.unmaps_le_one m hm, h.unmapped_iff m hm, h.external_never m hm⟩

theorem Inv.of_settled {s : St} (h1 : (s.maps.map (·.rid)).Nodup) (h2 : (s.handles.map (·.hid)).Nodup)
    (h3 : ∀ h ∈ s.handles, ∀ r ∈ h.refs, ∃ m ∈ s.maps, m.rid = r)
    (h4 : ∀ m ∈ s.maps, Settled (refcount s m.rid > 0) m) : Inv s :=
  ⟨h1, h2, h3, fun m hm => (h4 m hm).1, fun m hm => (h4 m hm).2, fun m hm => (h4 m hm).3, fun m hm => (h4 m hm).4⟩

theorem Settled.congr {live live' : Prop} {m : Mapping} (e : live ↔ live') (h : Settled live m) : Settled live' m :=
  ⟨fun ho => (h.1 ho).trans e, h.2, h.3, h.4⟩

theorem settled_new (rid : Nat) (owned : Bool) {live : Prop} (hl : live) :
    Settled live { rid := rid, owned := owned, mapped := true, unmaps := 0 } :=
  ⟨fun _ => ⟨fun _ => hl, fun _ => rfl⟩, Nat.zero_le _, fun _ => ⟨nofun, nofun⟩, fun _ => ⟨rfl, rfl⟩⟩

theorem Settled.unmaps_zero {live : Prop} {m : Mapping} (h : Settled live m) (ho : m.owned = true)
    (hm : m.mapped = true) : m.unmaps = 0 := by
  have h1 := h.unmaps_le_one
  have h2 : m.unmaps ≠ 1 := fun e => by rw [(h.unmapped_iff ho).1 e] at hm; cases hm
  omega

/-- what `collect` does to one mapping -/
def collectMap (s : St) (m : Mapping) : Mapping :=
  if m.mapped && m.owned && refcount s m.rid == 0 then { m with mapped := false, unmaps := m.unmaps + 1 } else m

theorem collect_eq (s : St) : collect s = { s with maps := s.maps.map (collectMap s) } := rfl

theorem collectMap_rid (s : St) (m : Mapping) : (collectMap s m).rid = m.rid := by
  unfold collectMap; split <;> rfl

theorem collectMap_owned (s : St) (m : Mapping) : (collectMap s m).owned = m.owned := by
  unfold collectMap; split <;> rfl

/-- a settled mapping stays settled under `collect` when references only went away: if it was mapped, owned and has
    lost its last reference it is unmapped now, for the first time (`unmaps` was 0 because it was mapped) -/
theorem collectMap_ok (s1 : St) (m : Mapping) {liveOld : Prop} (hle : refcount s1 m.rid > 0 → liveOld)
    (h : Settled liveOld m) : Settled (refcount s1 m.rid > 0) (collectMap s1 m) := by
  unfold collectMap
  split
  · rename_i hc
    simp only [Bool.and_eq_true, beq_iff_eq] at hc
    obtain ⟨⟨hm, ho⟩, hz⟩ := hc
    have hu := h.unmaps_zero ho hm
    exact ⟨fun _ => ⟨nofun, fun hp => by omega⟩, by simp [hu], fun _ => ⟨fun _ => rfl, fun _ => by simp [hu]⟩,
      fun hno => by simp [ho] at hno⟩
  · rename_i hc
    refine ⟨fun ho => ⟨fun hm => ?_, fun hp => ((h.1 ho).2 (hle hp))⟩, h.2, h.3, h.4⟩
    simp only [Bool.and_eq_true, beq_iff_eq, not_and] at hc
    have := hc ⟨hm, ho⟩
    omega

/-! ### the two shapes of a state change -/

/-- only the handle list changes, and exactly the same region ids stay reachable -/
theorem inv_handles (s : St) (hs' : List Handle) (h : Inv s)
    (hnd : (hs'.map (·.hid)).Nodup)
    (hreach : ∀ rid, Reach hs' rid ↔ Reach s.handles rid) : Inv { s with handles := hs' } := by
  have hrc : ∀ rid, refcount s rid > 0 ↔ refcount { s with handles := hs' } rid > 0 := by
    intro rid
    rw [refcount_pos_iff, refcount_pos_iff]
    exact (hreach rid).symm
  refine .of_settled h.rid_nodup hnd ?_ (fun m hm => (h.settled m hm).congr (hrc _))
  intro hd hhd r hr
  obtain ⟨h0, hh0, hr0⟩ := (hreach r).1 ⟨hd, hhd, hr⟩
  exact h.refs_exist h0 hh0 r hr0

/-- handles are removed (references only go away), then `collect` runs -/
theorem inv_collect (s : St) (hs' : List Handle) (h : Inv s)
    (hnd : (hs'.map (·.hid)).Nodup)
    (hsub : ∀ rid, Reach hs' rid → Reach s.handles rid) : Inv (collect { s with handles := hs' }) := by
  have hrc : ∀ rid, refcount { s with handles := hs' } rid > 0 → refcount s rid > 0 := by
    intro rid
    rw [refcount_pos_iff, refcount_pos_iff]
    exact hsub rid
  rw [collect_eq]
  refine .of_settled ?_ hnd ?_ ?_
  · simp only [List.map_map, Function.comp_def, collectMap_rid]
    exact h.rid_nodup
  · intro hd hhd r hr
    obtain ⟨h0, hh0, hr0⟩ := hsub r ⟨hd, hhd, hr⟩
    obtain ⟨m, hm, e⟩ := h.refs_exist h0 hh0 r hr0
    exact ⟨collectMap _ m, List.mem_map.2 ⟨m, hm, rfl⟩, by rw [collectMap_rid]; exact e⟩
  · intro m' hm'
    obtain ⟨m, hm, rfl⟩ := List.mem_map.1 hm'
    rw [collectMap_rid]
    exact collectMap_ok _ m (hrc m.rid) (h.settled m hm)

/-! ### the six operations -/

theorem create_inv (s : St) (hid rid : Nat) (owned : Bool) (h : Inv s) : Inv (step s (.create hid rid owned)) := by
  simp only [step]
  split
  · rename_i hc
    simp only [Bool.and_eq_true, Option.isNone_iff_eq_none, List.find?_eq_none] at hc
    obtain ⟨hfr, hnew⟩ := hc
    have hfr' := (fresh_iff s hid).1 hfr
    have hnew' : ∀ m ∈ s.maps, m.rid ≠ rid := fun m hm => by simpa using hnew m hm
    refine .of_settled (nodup_snoc _ h.rid_nodup _ hnew') (nodup_snoc _ h.hid_nodup _ hfr') ?_ ?_
    · intro hd hhd r hr
      rcases List.mem_append.1 hhd with hh | hh
      · obtain ⟨m, hm, e⟩ := h.refs_exist hd hh r hr
        exact ⟨m, List.mem_append_left _ hm, e⟩
      · cases List.mem_singleton.1 hh
        cases List.mem_singleton.1 hr
        exact ⟨_, List.mem_append_right _ (List.mem_singleton.2 rfl), rfl⟩
    · intro m hm
      -- the new handle makes exactly `rid` live, and no old mapping has that id
      have hlive : ∀ ms x, refcount { maps := ms, handles := s.handles ++ [{ hid := hid, refs := [rid] }] } x > 0 ↔
          refcount s x > 0 ∨ x = rid := fun ms x => by
        rw [refcount_pos_iff, refcount_pos_iff]
        simp
      rcases List.mem_append.1 hm with hh | hh
      · exact (h.settled m hh).congr ((hlive _ _).trans (or_iff_left (hnew' m hh))).symm
      · cases List.mem_singleton.1 hh
        exact settled_new rid owned ((hlive _ _).2 (.inr rfl))
  · exact h

theorem build_inv (s : St) (hid : Nat) (parts : List Nat) (h : Inv s) : Inv (step s (.build hid parts)) := by
  simp only [step]
  split
  · rename_i hc
    simp only [Bool.and_eq_true, List.all_eq_true, Option.isSome_iff_exists, decide_eq_true_eq] at hc
    obtain ⟨⟨hfr, hall⟩, _hpn⟩ := hc
    have hfr' := (fresh_iff s hid).1 hfr
    apply inv_handles s _ h
    · exact nodup_snoc _ (nodup_filter _ _ h.hid_nodup) _
        (fun x hx => hfr' x ((List.mem_filter.1 hx).1))
    · intro rid
      simp only [reach_append, reach_cons, reach_nil, or_false, List.mem_flatMap]
      constructor
      · rintro (hx | ⟨p, _, hr⟩)
        · exact .of_filter hx
        · cases hf : findH s p with
          | none => simp [hf] at hr
          | some y =>
            simp only [hf, Option.map_some, Option.getD_some] at hr
            exact .of_mem (findH_some s p y hf).1 hr
      · rintro ⟨x, hx, hr⟩
        by_cases hp : x.hid ∈ parts
        · exact .inr ⟨x.hid, hp, by rw [findH_of_mem s h.hid_nodup x hx]; exact hr⟩
        · exact .inl ⟨x, List.mem_filter.2 ⟨hx, by simpa using hp⟩, hr⟩
  · exact h

theorem insert_inv (s : St) (hid src reg : Nat) (h : Inv s) : Inv (step s (.insert hid src reg)) := by
  simp only [step]
  split
  · rename_i hs hr hfs hfr
    split
    · rename_i hc
      simp only [Bool.and_eq_true, bne_iff_ne, ne_eq] at hc
      obtain ⟨hfresh, hne⟩ := hc
      have hfr' := (fresh_iff s hid).1 hfresh
      obtain ⟨hsm, hsid⟩ := findH_some s src hs hfs
      obtain ⟨hrm, hrid⟩ := findH_some s reg hr hfr
      apply inv_handles s _ h
      · exact nodup_snoc _ (nodup_filter _ _ h.hid_nodup) _
          (fun x hx => hfr' x ((List.mem_filter.1 hx).1))
      · intro rid
        unfold removeH
        simp only [reach_append, reach_cons, reach_nil, or_false, List.mem_append]
        constructor
        · rintro (hx | hx | hx)
          · exact .of_filter hx
          · exact .of_mem hsm hx
          · exact .of_mem hrm hx
        · rintro ⟨x, hx, hrx⟩
          by_cases hp : x.hid = reg
          · have : findH s x.hid = some x := findH_of_mem s h.hid_nodup x hx
            rw [hp, hfr] at this
            cases this
            exact .inr (.inr hrx)
          · exact .inl ⟨x, List.mem_filter.2 ⟨hx, by simpa using hp⟩, hrx⟩
    · exact h
  · exact h

theorem remove_inv (s : St) (hid hreg src rid : Nat) (h : Inv s) : Inv (step s (.remove hid hreg src rid)) := by
  simp only [step]
  split
  · rename_i hs hfs
    split
    · rename_i hc
      simp only [Bool.and_eq_true, bne_iff_ne, ne_eq, List.contains_iff_mem] at hc
      obtain ⟨⟨⟨hf1, hf2⟩, hne⟩, hmem⟩ := hc
      have hf1' := (fresh_iff s hid).1 hf1
      have hf2' := (fresh_iff s hreg).1 hf2
      obtain ⟨hsm, hsid⟩ := findH_some s src hs hfs
      apply inv_handles s _ h
      · rw [List.append_cons]
        apply nodup_snoc _ (nodup_snoc _ h.hid_nodup _ hf1')
        intro x hx
        rcases List.mem_append.1 hx with hh | hh
        · exact hf2' x hh
        · simp only [List.mem_singleton] at hh
          subst hh; exact hne
      · intro r
        simp only [reach_append, reach_cons, reach_nil, or_false, List.mem_singleton]
        refine or_iff_left_of_imp ?_
        rintro (hr | rfl)
        · exact .of_mem hsm (List.mem_of_mem_erase hr)
        · exact .of_mem hsm hmem
    · exact h
  · exact h

theorem clone_inv (s : St) (hid src : Nat) (h : Inv s) : Inv (step s (.clone hid src)) := by
  simp only [step]
  split
  · rename_i hs hfs
    split
    · rename_i hfresh
      have hfr' := (fresh_iff s hid).1 hfresh
      obtain ⟨hsm, hsid⟩ := findH_some s src hs hfs
      apply inv_handles s _ h
      · exact nodup_snoc _ h.hid_nodup _ hfr'
      · intro r
        simp only [reach_append, reach_cons, reach_nil, or_false]
        exact or_iff_left_of_imp (Reach.of_mem hsm)
    · exact h
  · exact h

theorem drop_inv (s : St) (hid : Nat) (h : Inv s) : Inv (step s (.drop hid)) := by
  simp only [step]
  apply inv_collect s _ h
  · exact nodup_filter _ _ h.hid_nodup
  · exact fun r => .of_filter

theorem step_inv (s : St) (op : Op) (h : Inv s) : Inv (step s op) := by
  cases op with
  | create hid rid owned => exact create_inv s hid rid owned h
  | build hid parts => exact build_inv s hid parts h
  | insert hid src reg => exact insert_inv s hid src reg h
  | remove hid hreg src rid => exact remove_inv s hid hreg src rid h
  | clone hid src => exact clone_inv s hid src h
  | drop hid => exact drop_inv s hid h

theorem run_inv (s : St) (ops : List Op) (h : Inv s) : Inv (run s ops) :=
  List.foldlRecOn ops step h fun t ht op _ => step_inv t op ht

theorem reachable_inv (ops : List Op) : Inv (run {} ops) := run_inv _ ops init_inv

/-! ### corollaries -/

/-- no live handle designates an unmapped mapping -/
theorem no_dangling {s : St} (h : Inv s) :
    ∀ hd ∈ s.handles, ∀ r ∈ hd.refs, ∀ m ∈ s.maps, m.rid = r → m.mapped = true := by
  intro hd hhd r hr m hm e
  cases ho : m.owned with
  | false => exact (h.external_never m hm ho).2
  | true =>
    rw [h.owned_mapped_iff m hm ho, refcount_pos_iff]
    exact ⟨hd, hhd, e ▸ hr⟩

theorem no_dangling_exists {s : St} (h : Inv s) :
    ∀ hd ∈ s.handles, ∀ r ∈ hd.refs, ∃ m ∈ s.maps, m.rid = r ∧ m.mapped = true := by
  intro hd hhd r hr
  obtain ⟨m, hm, e⟩ := h.refs_exist hd hhd r hr
  exact ⟨m, hm, e, no_dangling h hd hhd r hr m hm e⟩

/-- an owned mapping nobody references any more has been unmapped exactly once (per mapping,
    without waiting for all handles to go) -/
theorem unreferenced_unmapped_once {s : St} (h : Inv s) :
    ∀ m ∈ s.maps, m.owned = true → refcount s m.rid = 0 → m.mapped = false ∧ m.unmaps = 1 := by
  intro m hm ho hz
  have hmf : m.mapped = false :=
    Bool.eq_false_iff.2 fun hmm => Nat.ne_of_gt ((h.owned_mapped_iff m hm ho).1 hmm) hz
  exact ⟨hmf, (h.unmapped_iff m hm ho).2 hmf⟩

/-- dropping everything, in any order, unmaps every owned mapping exactly once -/
theorem no_leak {s : St} (h : Inv s) (he : s.handles = []) :
    ∀ m ∈ s.maps, m.owned = true → m.mapped = false ∧ m.unmaps = 1 :=
  fun m hm ho => unreferenced_unmapped_once h m hm ho (by rw [refcount_eq_zero_iff, he]; exact reach_nil _)

/-- a still-referenced owned mapping has never been unmapped -/
theorem referenced_never_unmapped {s : St} (h : Inv s) :
    ∀ m ∈ s.maps, m.owned = true → refcount s m.rid > 0 → m.mapped = true ∧ m.unmaps = 0 := by
  intro m hm ho hp
  have hmt := (h.owned_mapped_iff m hm ho).2 hp
  exact ⟨hmt, (h.settled m hm).unmaps_zero ho hmt⟩

/-- the library never unmaps a mapping it did not create -/
theorem external_untouched {s : St} (h : Inv s) :
    ∀ m ∈ s.maps, m.owned = false → m.mapped = true ∧ m.unmaps = 0 :=
  fun m hm ho => (h.external_never m hm ho).symm

theorem no_leak_run (ops : List Op) (he : (run {} ops).handles = []) :
    ∀ m ∈ (run {} ops).maps, m.owned = true → m.mapped = false ∧ m.unmaps = 1 :=
  no_leak (reachable_inv ops) he

theorem no_dangling_run (ops : List Op) :
    ∀ hd ∈ (run {} ops).handles, ∀ r ∈ hd.refs, ∃ m ∈ (run {} ops).maps, m.rid = r ∧ m.mapped = true :=
  no_dangling_exists (reachable_inv ops)

theorem external_untouched_run (ops : List Op) :
    ∀ m ∈ (run {} ops).maps, m.owned = false → m.mapped = true ∧ m.unmaps = 0 :=
  external_untouched (reachable_inv ops)

/-! ### non-vacuity: a 7-operation history -/

/-- two regions (one owned, one external), a map built from them, a clone, a removal, then
    drops in an odd order -/
def demo : List Op :=
  [.create 1 10 true, .create 2 20 false, .build 3 [1, 2], .clone 4 3, .remove 5 6 3 10, .drop 3, .drop 5]

/-- after the seven operations: handles 4 (clone: both regions) and 6 (removed-region handle on
    10) are live, nothing has been unmapped -/
example : run {} demo =
    { maps := [{ rid := 10, owned := true, mapped := true, unmaps := 0 },
               { rid := 20, owned := false, mapped := true, unmaps := 0 }],
      handles := [{ hid := 4, refs := [10, 20] }, { hid := 6, refs := [10] }] } := by decide

/-- dropping the clone leaves region 10 alive through the removed-region handle -/
example : run {} (demo ++ [.drop 4]) =
    { maps := [{ rid := 10, owned := true, mapped := true, unmaps := 0 },
               { rid := 20, owned := false, mapped := true, unmaps := 0 }],
      handles := [{ hid := 6, refs := [10] }] } := by decide

/-- dropping the last handle unmaps the owned region exactly once and leaves the external one alone -/
example : run {} (demo ++ [.drop 4, .drop 6]) =
    { maps := [{ rid := 10, owned := true, mapped := false, unmaps := 1 },
               { rid := 20, owned := false, mapped := true, unmaps := 0 }],
      handles := [] } := by decide

/-- dropping an already dropped handle again changes nothing (no double unmap) -/
example : run {} (demo ++ [.drop 4, .drop 6, .drop 6, .drop 4]) =
    { maps := [{ rid := 10, owned := true, mapped := false, unmaps := 1 },
               { rid := 20, owned := false, mapped := true, unmaps := 0 }],
      handles := [] } := by decide

end VmMem.C12

#print axioms VmMem.C12.init_inv
#print axioms VmMem.C12.step_inv
#print axioms VmMem.C12.run_inv
#print axioms VmMem.C12.reachable_inv
#print axioms VmMem.C12.no_dangling
#print axioms VmMem.C12.no_dangling_exists
#print axioms VmMem.C12.no_leak
#print axioms VmMem.C12.unreferenced_unmapped_once
#print axioms VmMem.C12.referenced_never_unmapped
#print axioms VmMem.C12.external_untouched
#print axioms VmMem.C12.no_leak_run
#print axioms VmMem.C12.no_dangling_run
#print axioms VmMem.C12.external_untouched_run
