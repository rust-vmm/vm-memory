/-
  VmMem.Props.C18g — guest-memory level: an access that names no bytes succeeds as a no-op at
  ANY guest address (mapped, in a hole, 0, `U - 1`, even ≥ `U`) of ANY memory (no `WF` needed).

  All statements are immediate from `try_access`: `if count == 0 { return Ok(0) }`, the early
  return added by the `fix:` commit for defect D1.  `tryAccessBeforeFix` records the code
  before that commit: the loop was entered with `count = 0`, resolved `addr`, and returned
  `InvalidGuestAddress(addr)` when `addr` was not mapped.
-/
import VmMem.Lemmas.GuestLemmas
namespace VmMem
namespace C18g
open GuestLemmas

/-- `try_access(0, addr, f)` is `Ok(0)` for every callback, memory, state and address -/
theorem tryAccess_zero {σ : Type} (f : GMem → σ → Nat → Nat → Nat → Nat → GMem × σ × Res Nat)
    (m : GMem) (st : σ) (addr : Nat) : GMem.tryAccess f m st 0 addr = (m, st, .ok 0) :=
  if_pos rfl

/-! ## `Bytes<GuestAddress>`: empty buffer, zero-sized object — every `addr`, every `m` -/

theorem write_empty (m : GMem) (addr : Nat) : m.write [] addr = (m, .ok 0) := by
  unfold GMem.write
  simp only [List.length_nil, tryAccess_zero]

theorem read_zero (m : GMem) (addr : Nat) : m.read 0 addr = .ok [] := by
  unfold GMem.read
  simp only [tryAccess_zero]

theorem writeSlice_empty (m : GMem) (addr : Nat) : m.writeSlice [] addr = (m, .ok ()) := by
  unfold GMem.writeSlice
  rw [write_empty]
  simp

theorem readSlice_zero (m : GMem) (addr : Nat) : m.readSlice 0 addr = .ok [] := by
  unfold GMem.readSlice
  rw [read_zero]
  rfl

/-- `write_obj` of a zero-sized value (its byte image is empty) -/
theorem writeObj_zst (m : GMem) (val : List UInt8) (h : val.length = 0) (addr : Nat) :
    m.writeObj val addr = (m, .ok ()) := by
  rw [List.length_eq_zero_iff.1 h]
  exact writeSlice_empty m addr

/-- `read_obj` of a zero-sized type -/
theorem readObj_zst (m : GMem) (t : Ty) (h : t.size = 0) (addr : Nat) : m.readObj t addr = .ok [] := by
  unfold GMem.readObj
  rw [h]
  exact readSlice_zero m addr

/-- an empty range has no unmapped byte -/
theorem checkRange_zero (m : GMem) (addr : Nat) : m.checkRange addr 0 = .ok true :=
  checkRange_zero_eq m addr

/-! ## stream forms with `count = 0`: the stream is not touched either -/

theorem readVolatileFrom_zero (m : GMem) (addr : Nat) (src : Reader) :
    m.readVolatileFrom addr src 0 = (m, src, .ok 0) :=
  tryAccess_zero _ m src addr

theorem writeVolatileTo_zero (m : GMem) (addr : Nat) (dst : Writer) :
    m.writeVolatileTo addr dst 0 = (dst, .ok 0) := by
  unfold GMem.writeVolatileTo
  simp only [tryAccess_zero]

theorem readExactVolatileFrom_zero (m : GMem) (addr : Nat) (src : Reader) :
    m.readExactVolatileFrom addr src 0 = (m, src, .ok ()) := by
  unfold GMem.readExactVolatileFrom
  rw [readVolatileFrom_zero]
  simp

theorem writeAllVolatileTo_zero (m : GMem) (addr : Nat) (dst : Writer) :
    m.writeAllVolatileTo addr dst 0 = (dst, .ok ()) := by
  unfold GMem.writeAllVolatileTo
  rw [writeVolatileTo_zero]
  simp

/-! ## instances: address 0, `U - 1`, the empty memory -/

example (m : GMem) : m.write [] 0 = (m, .ok 0) := write_empty m 0
example (m : GMem) : m.write [] (U - 1) = (m, .ok 0) := write_empty m _
example : GMem.read [] 0 0x1234 = .ok [] := read_zero [] _
example (m : GMem) : m.readObj ⟨0, 1⟩ (U - 1) = .ok [] := readObj_zst m _ rfl _
example (m : GMem) : m.checkRange (U - 1) 0 = .ok true := checkRange_zero m _

/-! ## the repaired defect D1 -/

/-- `try_access` before the `fix:` commit: no early return, the loop is entered with
    `count = 0` -/
def tryAccessBeforeFix {σ : Type} (f : GMem → σ → Nat → Nat → Nat → Nat → GMem × σ × Res Nat)
    (m : GMem) (st : σ) (count addr : Nat) : GMem × σ × Res Nat :=
  GMem.tryAccessLoop f count addr m st addr 0

/-- for a non-zero count the two agree -/
theorem tryAccessBeforeFix_agrees {σ : Type}
    (f : GMem → σ → Nat → Nat → Nat → Nat → GMem × σ × Res Nat)
    (m : GMem) (st : σ) (count addr : Nat) (hc : count ≠ 0) :
    tryAccessBeforeFix f m st count addr = GMem.tryAccess f m st count addr :=
  (if_neg hc).symm

/-- D1: before the fix a zero-length access at an unmapped address of a well-formed memory
    was `InvalidGuestAddress(addr)` — for every callback -/
theorem tryAccessBeforeFix_zero_unmapped {σ : Type}
    (f : GMem → σ → Nat → Nat → Nat → Nat → GMem × σ × Res Nat)
    (m : GMem) (h : WF m) (st : σ) (addr : Nat) (hun : ¬ mapped m addr) :
    tryAccessBeforeFix f m st 0 addr = (m, st, .err (.invalidGuestAddress addr)) := by
  unfold tryAccessBeforeFix
  rw [GMem.tryAccessLoop, findRegion_of_unmapped h.toWFT hun]
  rfl

/-- a concrete memory with one region `[0x1000, 0x1004)` -/
def exMem : GMem := [{ start := 0x1000, mem := { base := 0x7000, bytes := [1, 2, 3, 4], bm := none } }]

theorem exMem_WF : WF exMem := by decide

/-- before the fix: an empty access at the hole `0x2000` is an error (shown with `check_range`'s callback) … -/
example : tryAccessBeforeFix trivCb exMem () 0 0x2000 =
    (exMem, (), .err (.invalidGuestAddress 0x2000)) :=
  tryAccessBeforeFix_zero_unmapped trivCb exMem exMem_WF () 0x2000 (by decide)

/-- … and so at address 0 and in the empty memory … -/
example : tryAccessBeforeFix trivCb exMem () 0 0 = (exMem, (), .err (.invalidGuestAddress 0)) :=
  tryAccessBeforeFix_zero_unmapped trivCb exMem exMem_WF () 0 (by decide)
example : tryAccessBeforeFix trivCb [] () 0 7 = ([], (), .err (.invalidGuestAddress 7)) :=
  tryAccessBeforeFix_zero_unmapped trivCb [] (by decide) () 7 (by decide)

/-- … after it: `Ok` -/
example : exMem.write [] 0x2000 = (exMem, .ok 0) := write_empty exMem _
example : exMem.checkRange 0x2000 0 = .ok true := checkRange_zero exMem _

end C18g
end VmMem

#print axioms VmMem.C18g.tryAccess_zero
#print axioms VmMem.C18g.write_empty
#print axioms VmMem.C18g.read_zero
#print axioms VmMem.C18g.writeSlice_empty
#print axioms VmMem.C18g.readSlice_zero
#print axioms VmMem.C18g.writeObj_zst
#print axioms VmMem.C18g.readObj_zst
#print axioms VmMem.C18g.checkRange_zero
#print axioms VmMem.C18g.readVolatileFrom_zero
#print axioms VmMem.C18g.writeVolatileTo_zero
#print axioms VmMem.C18g.readExactVolatileFrom_zero
#print axioms VmMem.C18g.writeAllVolatileTo_zero
#print axioms VmMem.C18g.tryAccessBeforeFix_agrees
#print axioms VmMem.C18g.tryAccessBeforeFix_zero_unmapped
#print axioms VmMem.C18g.exMem_WF
