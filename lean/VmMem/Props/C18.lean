/-
  VmMem.Props.C18 — slice/container layer: an access that names no bytes succeeds as
  a no-op at ANY offset, including out-of-range ones.

  * empty buffer / zero-sized object through `Bytes<usize> for VolatileSlice`:
    no hypothesis on the offset, on the slice, or on the container at all;
  * zero-sized element types through `VolatileRef`, `VolatileArrayRef` and
    `VolatileSlice::copy_to / copy_from`: nothing is read, nothing is written,
    nothing is marked dirty, the element count reported is the buffer's;
  * the raw helpers accept a zero-byte transfer wherever the slice points;
  * `copyToBeforeFix` / `arrCopyToBeforeFix` record the repaired defect D2: the code
    before the `fix:` commit divided by `size_of::<T>()` (resp. called
    `ptr.offset_from`) and panicked for a zero-sized `T`.
-/
import VmMem.Model.Volatile
import VmMem.Lemmas.VolatileLemmas
import VmMem.Lemmas.DataLemmas
import VmMem.Props.C04
namespace VmMem
namespace C18
open VolatileLemmas DataLemmas

/-! ## §1 `Bytes<usize>`: empty buffer, zero-sized object — every `addr` -/

theorem write_empty (m : Mem) (s : VSlice) (addr : Nat) : s.write m [] addr = .ok (m, 0) :=
  C04.write_empty m s addr

theorem read_zero (m : Mem) (s : VSlice) (addr : Nat) : s.read m 0 addr = .ok [] :=
  C04.read_zero m s addr

theorem writeSlice_empty (m : Mem) (s : VSlice) (addr : Nat) :
    s.writeSlice m [] addr = (m, .ok ()) :=
  C04.writeSlice_empty m s addr

theorem readSlice_zero (m : Mem) (s : VSlice) (addr : Nat) : s.readSlice m 0 addr = .ok [] :=
  C04.readSlice_zero m s addr

/-- `write_obj` of a zero-sized value (its byte image is empty) -/
theorem writeObj_zst (m : Mem) (s : VSlice) (val : List UInt8) (h : val.length = 0) (addr : Nat) :
    s.writeObj m val addr = (m, .ok ()) := by
  rw [List.length_eq_zero_iff.1 h]; rfl

/-- `read_obj` of a zero-sized type -/
theorem readObj_zst (m : Mem) (s : VSlice) (t : Ty) (h : t.size = 0) (addr : Nat) :
    s.readObj m t addr = .ok [] := by
  unfold VSlice.readObj; rw [h]; rfl

/-- in particular: far out of range, on an empty slice, on an empty container -/
example (m : Mem) (s : VSlice) : s.write m [] (U - 1) = .ok (m, 0) := write_empty m s _
example (m : Mem) : (VSlice.mk 0 0 0).readObj m ⟨0, 1⟩ (2 ^ 70) = .ok [] :=
  readObj_zst m _ _ rfl _

/-- the contrast that makes the statement non-trivial: one byte at the end of the slice is refused -/
example (m : Mem) (s : VSlice) (b : UInt8) : s.write m [b] s.size = .err .outOfBounds := by
  simp [VSlice.write]

/-! ## §2 raw helpers and marks -/

/-- `mark_dirty(off, 0)` marks nothing (the page program is empty) — no `Inv` needed -/
theorem mark_zero (m : Mem) (bmBase off : Nat) : m.mark bmBase off 0 = .ok m :=
  DataLemmas.mark_zero m bmBase off

theorem writeAt_nil (m : Mem) (addr : Nat) : m.writeAt addr [] = .ok m :=
  DataLemmas.writeAt_nil m addr

theorem readAt_zero (m : Mem) (addr : Nat) : m.readAt addr 0 = .ok [] :=
  DataLemmas.readAt_zero m addr

/-- `copy_to_volatile_slice(slice, src, 0)`: any slice, even one outside the container -/
theorem copyToVolatileSlice_zero (m : Mem) (s : VSlice) (src : List UInt8) :
    copyToVolatileSlice m s src 0 = .ok (m, 0) :=
  DataLemmas.copyToVolatileSlice_zero m s src

theorem copyFromVolatileSlice_zero (m : Mem) (s : VSlice) :
    copyFromVolatileSlice m s 0 = .ok [] :=
  DataLemmas.copyFromVolatileSlice_zero m s

/-- store-then-mark of no bytes is the identity, whatever the address and the mark offset -/
theorem store_nothing (m : Mem) (addr bmBase off : Nat) :
    (m.writeAt addr [] >>= fun m1 => m1.mark bmBase off 0) = .ok m := by
  rw [DataLemmas.writeAt_nil, Res.bind_ok, DataLemmas.mark_zero]

/-! ## §3 `VolatileRef<T>` / `VolatileArrayRef<T>` with a zero-sized `T` -/

theorem ref_store_zst (m : Mem) (r : VRef) (val : List UInt8) (h0 : r.ty.size = 0) :
    r.store m val = .ok m := by
  unfold VRef.store
  rw [h0, List.take_zero]
  exact store_nothing m r.addr r.bmBase 0

theorem ref_load_zst (m : Mem) (r : VRef) (h0 : r.ty.size = 0) : r.load m = .ok [] := by
  unfold VRef.load
  rw [h0]; exact DataLemmas.readAt_zero m r.addr

theorem refAt_zst (a : VArr) (i : Nat) (h0 : a.ty.size = 0) (hi : i < a.nelem) :
    a.refAt i = .ok { addr := a.addr, bmBase := sliceAt a.bmBase 0, ty := a.ty } := by
  rw [refAt_eq, if_pos hi, h0, Nat.zero_mul, if_pos (by decide)]
  rfl

theorem arr_store_zst (m : Mem) (a : VArr) (i : Nat) (val : List UInt8) (h0 : a.ty.size = 0)
    (hi : i < a.nelem) : a.store m i val = .ok m := by
  unfold VArr.store
  rw [refAt_zst a i h0 hi, Res.bind_ok]
  exact ref_store_zst m _ val h0

theorem arr_load_zst (m : Mem) (a : VArr) (i : Nat) (h0 : a.ty.size = 0) (hi : i < a.nelem) :
    a.load m i = .ok [] := by
  unfold VArr.load
  rw [refAt_zst a i h0 hi, Res.bind_ok]
  exact ref_load_zst m _ h0

/-- element access keeps its `assert!(index < self.nelem)` even for a zero-sized `T` -/
theorem arr_store_zst_index (m : Mem) (a : VArr) (i : Nat) (val : List UInt8) (hi : a.nelem ≤ i) :
    a.store m i val = .panic :=
  C04.arr_store_index m a i val hi

/-- `VolatileArrayRef::copy_to` with a zero-sized `T`: `min(buf.len(), nelem)` elements,
    no bytes, wherever the array points -/
theorem arr_copyTo_zst (m : Mem) (a : VArr) (blen : Nat) (h0 : a.ty.size = 0) :
    a.copyTo m blen = .ok (min blen a.nelem, []) := by
  unfold VArr.copyTo
  rw [if_neg (by omega)]
  dsimp only
  rw [h0, Nat.mul_zero, DataLemmas.readAt_zero]
  rfl

/-- `VolatileArrayRef::copy_from` with a zero-sized `T`: nothing stored, nothing marked -/
theorem arr_copyFrom_zst (m : Mem) (a : VArr) (blen : Nat) (buf : List UInt8) (h0 : a.ty.size = 0) :
    a.copyFrom m blen buf = .ok m := by
  unfold VArr.copyFrom
  rw [if_neg (by omega)]
  dsimp only
  rw [h0, Nat.mul_zero, List.take_zero]
  exact store_nothing m a.addr a.bmBase 0

/-- `VolatileArrayRef::copy_to_volatile_slice` with a zero-sized `T` or of an empty
    array: nothing moves, nothing is marked, wherever source and destination point -/
theorem arr_copyToSlice_zst (m : Mem) (a : VArr) (dst : VSlice)
    (h0 : a.ty.size = 0 ∨ a.nelem = 0) : a.copyToSlice m dst = .ok m := by
  have hz : a.nelem * a.ty.size = 0 := Nat.mul_eq_zero.2 h0.symm
  unfold VArr.copyToSlice
  rw [mulP_of_lt (by rw [hz]; decide), Res.bind_ok, hz, Nat.zero_min]
  dsimp only
  rw [DataLemmas.readAt_zero, Res.bind_ok]
  exact store_nothing m dst.addr dst.bmBase 0

/-- … and into an empty destination (the array's byte length being a `usize` value) -/
theorem arr_copyToSlice_empty_dst (m : Mem) (a : VArr) (dst : VSlice) (hd : dst.size = 0)
    (hlt : a.nelem * a.ty.size < U) : a.copyToSlice m dst = .ok m := by
  unfold VArr.copyToSlice
  rw [mulP_of_lt hlt, Res.bind_ok, hd, Nat.min_zero]
  dsimp only
  rw [DataLemmas.readAt_zero, Res.bind_ok]
  exact store_nothing m dst.addr dst.bmBase 0

/-! ## §4 `VolatileSlice::copy_to / copy_from / copy_to_volatile_slice` -/

/-- `VolatileSlice::copy_to_volatile_slice` from or into an empty slice -/
theorem copyToSlice_empty (m : Mem) (s dst : VSlice) (h0 : s.size = 0 ∨ dst.size = 0) :
    s.copyToSlice m dst = .ok m := by
  have hz : min s.size dst.size = 0 := by omega
  unfold VSlice.copyToSlice
  simp only [hz]
  rw [DataLemmas.readAt_zero, Res.bind_ok]
  exact store_nothing m dst.addr dst.bmBase 0

/-- the array view `copy_to::<T>` builds for a zero-sized `T` -/
theorem getArrayRef_zst (s : VSlice) (t : Ty) (blen : Nat) (h0 : t.size = 0) (hb : blen ≤ ISIZE_MAX) :
    s.getArrayRef 0 blen t =
      .ok { addr := s.addr + 0, nelem := blen, bmBase := sliceAt s.bmBase 0, ty := t } := by
  rw [getArrayRef_checked, h0, Nat.mul_zero, if_pos ⟨hb, Nat.zero_le _⟩,
    checked_ok (by decide) (Nat.zero_le _)]

/-- `copy_to::<T>` with a zero-sized `T`: all `buf.len()` elements "copied", no byte read —
    for ANY slice (no containment hypothesis) -/
theorem copyTo_zst (m : Mem) (s : VSlice) (t : Ty) (blen : Nat) (h0 : t.size = 0)
    (hb : blen ≤ ISIZE_MAX) : s.copyTo m t blen = .ok (blen, []) := by
  unfold VSlice.copyTo
  rw [if_neg (by omega), C04.elemCount_zero s t blen h0, getArrayRef_zst s t blen h0 hb]
  show VArr.copyTo m _ blen = _
  rw [arr_copyTo_zst m _ blen h0]
  rw [Nat.min_self]

/-- `copy_from::<T>` with a zero-sized `T`: the container is returned unchanged — bytes,
    base AND bitmap (nothing is marked) -/
theorem copyFrom_zst (m : Mem) (s : VSlice) (t : Ty) (blen : Nat) (buf : List UInt8)
    (h0 : t.size = 0) (hb : blen ≤ ISIZE_MAX) : s.copyFrom m t blen buf = .ok m := by
  unfold VSlice.copyFrom
  rw [if_neg (by omega), C04.elemCount_zero s t blen h0, getArrayRef_zst s t blen h0 hb]
  show VArr.copyFrom m _ blen buf = _
  exact arr_copyFrom_zst m _ blen buf h0

theorem copyFrom_zst_bytes (m : Mem) (s : VSlice) (t : Ty) (blen : Nat) (buf : List UInt8)
    (h0 : t.size = 0) (hb : blen ≤ ISIZE_MAX) :
    ∃ m', s.copyFrom m t blen buf = .ok m' ∧ m'.bytes = m.bytes ∧ m'.base = m.base ∧ m'.bm = m.bm :=
  ⟨m, copyFrom_zst m s t blen buf h0 hb, rfl, rfl, rfl⟩

/-- the element-count conversion `isize::try_from(n)` of `get_array_ref` is still there:
    a zero-sized-element buffer longer than `isize::MAX` makes `.unwrap()` panic.
    (Real code: `get_array_ref` returns `TooBig`; `copy_to` unwraps it.) -/
theorem copyTo_zst_huge (m : Mem) (s : VSlice) (t : Ty) (blen : Nat) (h0 : t.size = 0)
    (hb : ISIZE_MAX < blen) : s.copyTo m t blen = .panic :=
  C04.copyTo_zst_too_big m s t blen h0 hb

/-- an empty element buffer with a one-byte `T` (the fast path): nothing moves -/
theorem copyTo_empty_buf_u8 (m : Mem) (s : VSlice) (t : Ty) (h1 : t.size = 1) :
    s.copyTo m t 0 = .ok (0, []) := by
  unfold VSlice.copyTo
  rw [if_pos h1, Nat.zero_min]
  dsimp only
  rw [DataLemmas.copyFromVolatileSlice_zero]
  rfl

theorem copyFrom_empty_buf_u8 (m : Mem) (s : VSlice) (t : Ty) (buf : List UInt8) (h1 : t.size = 1) :
    s.copyFrom m t 0 buf = .ok m := by
  unfold VSlice.copyFrom
  rw [if_pos h1, Nat.zero_min]
  dsimp only
  rw [DataLemmas.copyToVolatileSlice_zero]
  rfl

/-! ## §5 the repaired defect D2 -/

/-- `VolatileSlice::copy_to::<T>` as it was before the `fix:` commit:
    `let count = self.size / size_of::<T>();` -/
def copyToBeforeFix (m : Mem) (s : VSlice) (t : Ty) (blen : Nat) : Res (Nat × List UInt8) :=
  if t.size = 1 then do
    let total := min blen s.size
    let d ← copyFromVolatileSlice m s total
    pure (total, d)
  else do
    let count ← divP s.size t.size
    let a ← Res.unwrapRes (s.getArrayRef 0 count t)
    a.copyTo m blen

/-- `VolatileArrayRef::copy_to` as it was before the `fix:` commit: the result was
    `ptr.offset_from(start)`, which asserts `size_of::<T>() != 0` -/
def arrCopyToBeforeFix (m : Mem) (a : VArr) (blen : Nat) : Res (Nat × List UInt8) :=
  if a.ty.size = 1 then a.copyTo m blen
  else do
    let k := min blen a.nelem
    let d ← m.readAt a.addr (k * a.ty.size)
    let cnt ← divP (k * a.ty.size) a.ty.size     -- `offset_from`: byte distance / size_of::<T>()
    pure (cnt, d)

/-- before the fix a zero-sized `T` was a division by zero … -/
theorem copyToBeforeFix_zst_panics (m : Mem) (s : VSlice) (t : Ty) (blen : Nat) (h0 : t.size = 0) :
    copyToBeforeFix m s t blen = .panic := by
  unfold copyToBeforeFix
  rw [if_neg (by omega), h0]
  rfl

theorem arrCopyToBeforeFix_zst_panics (m : Mem) (a : VArr) (blen : Nat) (h0 : a.ty.size = 0) :
    arrCopyToBeforeFix m a blen = .panic := by
  unfold arrCopyToBeforeFix
  rw [if_neg (by omega)]
  dsimp only
  rw [h0, Nat.mul_zero, DataLemmas.readAt_zero]
  rfl

/-- … and for every non-zero-sized `T` the old and the new `copy_to` agree, so the
    theorem `copyTo_zst` is exactly about the fix -/
theorem copyToBeforeFix_agrees (m : Mem) (s : VSlice) (t : Ty) (blen : Nat) (h0 : t.size ≠ 0) :
    copyToBeforeFix m s t blen = s.copyTo m t blen := by
  unfold copyToBeforeFix VSlice.copyTo VSlice.elemCount divP
  rw [if_neg h0, if_neg h0]
  rfl

example : copyToBeforeFix ⟨0x1003, List.replicate 13 0, none⟩ ⟨0x1003, 13, 0⟩ ⟨0, 1⟩ 5 = .panic := by
  decide +kernel
example : (VSlice.mk 0x1003 13 0).copyTo ⟨0x1003, List.replicate 13 0, none⟩ ⟨0, 1⟩ 5 = .ok (5, []) := by
  decide +kernel
example : arrCopyToBeforeFix ⟨0x1003, List.replicate 13 0, none⟩ ⟨0x1003, 7, 0, ⟨0, 1⟩⟩ 5 = .panic := by
  decide +kernel
example : (VArr.mk 0x1003 7 0 ⟨0, 1⟩).copyTo ⟨0x1003, List.replicate 13 0, none⟩ 5 = .ok (5, []) := by
  decide +kernel
/-- even far outside the container -/
example : (VSlice.mk 0x9999 13 0).copyTo ⟨0x1003, List.replicate 13 0, none⟩ ⟨0, 1⟩ 5 = .ok (5, []) := by
  decide +kernel
example : (VSlice.mk 0x9999 13 0).write ⟨0x1003, List.replicate 13 0, none⟩ [] 0xffff
    = .ok (⟨0x1003, List.replicate 13 0, none⟩, 0) := by decide +kernel

end C18
end VmMem

#print axioms VmMem.C18.write_empty
#print axioms VmMem.C18.read_zero
#print axioms VmMem.C18.writeSlice_empty
#print axioms VmMem.C18.readSlice_zero
#print axioms VmMem.C18.writeObj_zst
#print axioms VmMem.C18.readObj_zst
#print axioms VmMem.C18.mark_zero
#print axioms VmMem.C18.writeAt_nil
#print axioms VmMem.C18.readAt_zero
#print axioms VmMem.C18.copyToVolatileSlice_zero
#print axioms VmMem.C18.copyFromVolatileSlice_zero
#print axioms VmMem.C18.store_nothing
#print axioms VmMem.C18.ref_store_zst
#print axioms VmMem.C18.ref_load_zst
#print axioms VmMem.C18.refAt_zst
#print axioms VmMem.C18.arr_store_zst
#print axioms VmMem.C18.arr_load_zst
#print axioms VmMem.C18.arr_store_zst_index
#print axioms VmMem.C18.arr_copyTo_zst
#print axioms VmMem.C18.arr_copyFrom_zst
#print axioms VmMem.C18.arr_copyToSlice_zst
#print axioms VmMem.C18.arr_copyToSlice_empty_dst
#print axioms VmMem.C18.copyToSlice_empty
#print axioms VmMem.C18.copyTo_zst
#print axioms VmMem.C18.copyFrom_zst
#print axioms VmMem.C18.copyFrom_zst_bytes
#print axioms VmMem.C18.copyTo_zst_huge
#print axioms VmMem.C18.copyTo_empty_buf_u8
#print axioms VmMem.C18.copyFrom_empty_buf_u8
#print axioms VmMem.C18.copyToBeforeFix_zst_panics
#print axioms VmMem.C18.arrCopyToBeforeFix_zst_panics
#print axioms VmMem.C18.copyToBeforeFix_agrees
