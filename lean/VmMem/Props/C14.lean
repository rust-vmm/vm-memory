/-
  VmMem.Props.C14 — nothing is lost or duplicated under short I/O, EINTR and errors.

  A stream is a `Reader`/`Writer` whose successive calls behave as its `script : List Beh`
  says.  Every theorem below quantifies over ALL scripts (of any length): unbounded
  sequences of short transfers, interruptions and failures.

  `BmInv`, `InB`, `splice` are those of `VmMem.Lemmas.IoLemmas`; `o := s.addr - m.base`.
  Beside them the statements assume `m.base + m.bytes.length < U`: the allocation does not end
  at the very top of the address space (with `≤ U` the `checked_add` in `VolatileSlice::offset`
  reports `Overflow` for the one-past-the-end pointer, see `offset_at_top_overflows`).
-/
import VmMem.Lemmas.IoLemmas
namespace VmMem.C14
open VmMem IoLemmas VolatileLemmas

/-! ### 1. one call -/

/-- One `read_volatile` call on a stream that is not a raw descriptor either returns
    `Ok(n)`, `n ≤ min(s.size, available)`, having stored the next `n` available bytes at
    `[o, o+n)` and advanced the reader by `n`; or it returns `Interrupted`/`other` with memory
    and stream data unchanged (only the script advanced).  It never panics. -/
theorem readVolatile_cases (r : Reader) (m : Mem) (s : VSlice) (hk : r.kind ≠ .fd)
    (hbm : BmInv m) (hin : InB m s) :
    (∃ m' n, r.readVolatile m s = (m', r.next.advance n, .ok n) ∧
        n ≤ min s.size r.avail.length ∧
        m'.bytes = splice m.bytes (s.addr - m.base) (r.avail.take n) ∧
        (r.next.advance n).avail = r.avail.drop n ∧
        m'.base = m.base ∧ BmInv m') ∨
    (∃ k, r.readVolatile m s = (m, r.next, .err (.ioError k)) ∧
        (k = IoKind.interrupted ∨ k = IoKind.other) ∧
        r.next.data = r.data ∧ r.next.pos = r.pos ∧ r.next.avail = r.avail) := by
  cases hx : xfer (hd r.script) s.size r.avail.length with
  | some n =>
    obtain ⟨m', h, hmv⟩ := Reader.readVolatile_moved hbm hin hx
    exact .inl ⟨m', n, h, Nat.le_min.2 (xfer_le hx), hmv.bytes, hmv.avail, hmv.base, hmv.bm⟩
  | none =>
    obtain ⟨m', h, _, hm⟩ := Reader.readVolatile_failed s hbm hx
    rw [hm hk] at h
    exact .inr ⟨_, h, errKind_cases _, rfl, rfl, rfl⟩

theorem readVolatile_no_panic (r : Reader) (m : Mem) (s : VSlice) (hk : r.kind ≠ .fd)
    (hbm : BmInv m) (hin : InB m s) : (r.readVolatile m s).2.2 ≠ .panic := by
  rcases readVolatile_cases r m s hk hbm hin with ⟨m', n, h, _⟩ | ⟨k, h, _⟩ <;> rw [h] <;> simp

/-- The dual for writers: one `write_volatile` call hands the first `n` bytes of the slice to the
    sink (`n ≤ s.size`, and `≤` the room of a bounded sink), or fails leaving the sink unchanged;
    memory is only read (writers return no `Mem`). -/
theorem writeVolatile_cases (w : Writer) (m : Mem) (s : VSlice) (hin : InB m s) :
    (∃ n, w.writeVolatile m s =
          (w.next.accept ((m.bytes.drop (s.addr - m.base)).take n), .ok n) ∧
        n ≤ s.size ∧ (∀ room, w.room = some room → n ≤ room)) ∨
    (∃ k, w.writeVolatile m s = (w.next, .err (.ioError k)) ∧
        (k = IoKind.interrupted ∨ k = IoKind.other)) := by
  rw [Writer.writeVolatile_eq_xfer]
  cases hx : xfer (hd w.script) s.size (w.cap s.size) with
  | some n =>
    have hle := xfer_le hx
    refine .inl ⟨n, Writer.wvCopy_ok hin _ hle.1, hle.1, fun room hr => ?_⟩
    rw [Writer.cap_of_room_some hr] at hle
    exact Nat.le_trans hle.2 (Nat.min_le_right _ _)
  | none =>
    exact .inr ⟨errKind (hd w.script), rfl, errKind_cases _⟩

/-! ### 2. `retry_eintr!` -/

/-- `Interrupted` never escapes `retry_eintr!`: every kind (also raw descriptors),
    every script, every container. -/
theorem eintr_invisible (r : Reader) (m : Mem) (s : VSlice) :
    (r.readRetry m s).2.2 ≠ .err (.ioError IoKind.interrupted) :=
by
  -- one call on the script without its leading `eintr` entries, or the panic of a descriptor's
  -- dirty marking
  rcases Reader.readRetry_drop_eintr r m s with ⟨m0, h, _⟩ | ⟨h, _⟩
  · rw [h]; exact Reader.readVolatile_ne_eintr (Reader.skipEintr_hd r) m0 s
  · rw [h]; simp

/-- `retry_eintr!(read_volatile)` on script `σ` = one `read_volatile` on `σ` with its
    leading `eintr` entries deleted: same memory, same result, same data, and the remaining
    script is the corresponding tail. -/
theorem readRetry_drop_eintr (r : Reader) (m : Mem) (s : VSlice) (hk : r.kind ≠ .fd) :
    r.readRetry m s =
      ({ r with script := r.script.dropWhile (· = .eintr) } : Reader).readVolatile m s :=
by
  rcases Reader.readRetry_drop_eintr r m s with ⟨m0, h, _, _, _, hm⟩ | ⟨_, h, _⟩
  · rw [h, hm hk]; rfl
  · exact absurd h hk

theorem readRetry_script (r : Reader) (m : Mem) (s : VSlice) (hk : r.kind ≠ .fd) :
    (r.readRetry m s).2.1.script = (r.script.dropWhile (· = .eintr)).tail := by
  rw [readRetry_drop_eintr r m s hk, Reader.readVolatile_script]

theorem eintr_invisible_write (w : Writer) (m : Mem) (s : VSlice) :
    (w.writeRetry m s).2 ≠ .err (.ioError IoKind.interrupted) :=
by
  rw [Writer.writeRetry_drop_eintr]
  exact Writer.writeVolatile_ne_eintr (Writer.skipEintr_hd w) m s

theorem writeRetry_drop_eintr (w : Writer) (m : Mem) (s : VSlice) :
    w.writeRetry m s =
      ({ w with script := w.script.dropWhile (· = .eintr) } : Writer).writeVolatile m s :=
  Writer.writeRetry_drop_eintr w m s

theorem writeRetry_script (w : Writer) (m : Mem) (s : VSlice) :
    (w.writeRetry m s).1.script = (w.script.dropWhile (· = .eintr)).tail := by
  rw [writeRetry_drop_eintr w m s, Writer.writeVolatile_script]

/-! ### 3. the up-to form `read_volatile_from` -/

/-- `read_volatile_from(addr, src, count)` with `addr ≤ s.size`, for every script: some `k ≤
    min(s.size - addr, count)` bytes were consumed from the reader and exactly these, in order,
    are stored at `[o + addr, o + addr + k)` — none dropped, none stored twice; every other
    byte of the container is unchanged; the call returns `Ok(k)`, or `k = 0` and the stream's
    own error.  Never `Interrupted`, never a panic.  (With it the property's
    `upto_returns_moved` and `frame`.) -/
theorem in_order_no_gap_no_dup (m : Mem) (s : VSlice) (addr : Nat) (r : Reader) (count : Nat)
    (hk : r.kind ≠ .fd) (hbm : BmInv m) (hin : InB m s) (hU : m.base + m.bytes.length < U)
    (ha : addr ≤ s.size) :
    ∃ m' r' res k, s.readVolatileFrom m addr r count = (m', r', res) ∧
      k ≤ min (s.size - addr) count ∧ k ≤ r.avail.length ∧
      r'.avail = r.avail.drop k ∧
      m'.bytes = splice m.bytes (s.addr - m.base + addr) (r.avail.take k) ∧
      (∀ i, i < s.addr - m.base + addr ∨ s.addr - m.base + addr + k ≤ i →
        m'.bytes[i]? = m.bytes[i]?) ∧
      m'.base = m.base ∧ BmInv m' ∧ r'.kind = r.kind ∧
      (res = .ok k ∨ (k = 0 ∧ res = .err (.ioError IoKind.other))) := by
  have hfit : ∀ n, n ≤ min (s.size - addr) count → s.addr - m.base + addr + n ≤ m.bytes.length :=
    fun n hn => by
      rw [Nat.add_assoc]
      exact hin.fits (Nat.add_le_of_le_sub' ha (Nat.le_trans hn (Nat.min_le_left _ _)))
  obtain ⟨m', r', x, h, ⟨n, hx, _, rfl, hmv⟩ | ⟨_, _, rfl, hmv⟩⟩ :=
    readVolatileFrom_spec m s addr r count hbm hin (hin.lt_U hU ha).1
      (hin.lt_U hU (Nat.le_refl _)).2 ha
  · exact ⟨m', r', _, n, h, (xfer_le hx).1, hmv.le, hmv.avail, hmv.bytes,
      hmv.frame (hfit n (xfer_le hx).1), hmv.base, hmv.bm, hmv.kind, .inl rfl⟩
  · exact ⟨m', r', _, 0, h, Nat.zero_le _, hmv.le, hmv.avail, hmv.bytes,
      hmv.frame (hfit 0 (Nat.zero_le _)), hmv.base, hmv.bm, hmv.kind, .inr ⟨rfl, rfl⟩⟩

/-- The count returned is the number of bytes moved. -/
theorem upto_returns_moved (m : Mem) (s : VSlice) (addr : Nat) (r : Reader) (count : Nat)
    (hk : r.kind ≠ .fd) (hbm : BmInv m) (hin : InB m s) (hU : m.base + m.bytes.length < U)
    (ha : addr ≤ s.size) (m' : Mem) (r' : Reader) (n : Nat)
    (h : s.readVolatileFrom m addr r count = (m', r', .ok n)) :
    n ≤ min (s.size - addr) count ∧ r'.avail = r.avail.drop n ∧
      m'.bytes = splice m.bytes (s.addr - m.base + addr) (r.avail.take n) ∧
      (m'.bytes.drop (s.addr - m.base + addr)).take n = r.avail.take n := by
  obtain ⟨m2, r2, x, h2, hx⟩ :=
    readVolatileFrom_spec m s addr r count hbm hin (hin.lt_U hU ha).1
      (hin.lt_U hU (Nat.le_refl _)).2 ha
  rw [h] at h2
  cases h2
  rcases hx with ⟨k, hx, _, hk, hmv⟩ | ⟨_, _, hk, _⟩
  · cases hk
    exact ⟨(xfer_le hx).1, hmv.avail, hmv.bytes,
      hmv.stored (hin.fits ha)⟩
  · cases hk

/-- `addr > s.size`: an error value, nothing changed.  (`OutOfBounds` unless the pointer
    addition itself overflows, which `VolatileSlice::offset` checks first.) -/
theorem upto_out_of_bounds (m : Mem) (s : VSlice) (addr : Nat) (r : Reader) (count : Nat)
    (ha : s.size < addr) :
    s.readVolatileFrom m addr r count =
      (m, r, .err (if s.addr + addr < U then .outOfBounds else .overflow)) := by
  unfold VSlice.readVolatileFrom
  rw [offset_checked]
  by_cases h : s.addr + addr < U
  · rw [checked_oob h (Nat.not_le.2 ha), if_pos h]
  · rw [checked_overflow h, if_neg h]

/-! ### 4. the exact form `read_exact_volatile_from` (default loop) -/

/-- `read_exact_volatile_from(addr, src, count)` on a harness stream (`scripted`; raw
    descriptors, which use the same default loop, are in `Reader.readExactLoop_spec`), for every
    script: some `k ≤ count` bytes were consumed and exactly these are stored, in order, at
    `[o + addr, o + addr + k)`; everything else is unchanged; the result is `Ok(())` iff
    `k = count`, otherwise `UnexpectedEof` or the stream's own error.  Never `Interrupted`,
    never a panic: the fuel `count + 1` of the model's loop never runs out.  (The property's
    `exact_ok_iff_full`, `error_ends_and_is_reported`, `readExactLoop_fuel`, `frame`.) -/
theorem exact_spec (m : Mem) (s : VSlice) (addr : Nat) (r : Reader) (count : Nat)
    (hk : r.kind = .scripted) (hbm : BmInv m) (hin : InB m s) (hU : m.base + m.bytes.length < U)
    (hfit : addr + count ≤ s.size) :
    ∃ m' r' res k, s.readExactVolatileFrom m addr r count = (m', r', res) ∧
      k ≤ count ∧ k ≤ r.avail.length ∧
      r'.avail = r.avail.drop k ∧
      m'.bytes = splice m.bytes (s.addr - m.base + addr) (r.avail.take k) ∧
      (∀ i, i < s.addr - m.base + addr ∨ s.addr - m.base + addr + k ≤ i →
        m'.bytes[i]? = m.bytes[i]?) ∧
      m'.base = m.base ∧ BmInv m' ∧ r'.kind = r.kind ∧
      (res = .ok () ↔ k = count) ∧
      (res = .ok () ∨ res = .err (.ioError IoKind.unexpectedEof) ∨
        res = .err (.ioError IoKind.other)) := by
  have hlt := hin.lt_U hU hfit
  rw [readExactVolatileFrom_eq m s addr r count hlt.2 hfit,
    Reader.readExact_default r m _ (.inl hk) (hin.lt_U hU (Nat.le_of_add_right_le hfit)).1]
  obtain ⟨m', r', res, k, h, hkc, hmv, hres⟩ :=
    Reader.readExactLoop_spec (count + 1) r m
      { addr := s.addr + addr, size := count, bmBase := sliceAt (sliceAt s.bmBase addr) 0 }
      hbm (hin.window hfit _) (Nat.lt_succ_self count)
  rw [DataLemmas.Win.ofs hin addr] at hmv
  obtain ⟨h1, h2⟩ := exact_outcome (addr := s.addr + addr) (Nat.add_assoc _ _ _ ▸ hlt.1) hkc hres
  have : s.addr - m.base + addr + k ≤ m.bytes.length := by
    rw [Nat.add_assoc]; exact hin.fits (Nat.le_trans (Nat.add_le_add_left hkc _) hfit)
  exact ⟨m', r', res, k, h, hkc, hmv.le, hmv.avail, hmv.bytes, hmv.frame this,
    hmv.base, hmv.bm, hmv.kind, h1, h2⟩

/-- `Ok(())` exactly when all `count` bytes were moved. -/
theorem exact_ok_iff_full (m : Mem) (s : VSlice) (addr : Nat) (r : Reader) (count : Nat)
    (hk : r.kind = .scripted) (hbm : BmInv m) (hin : InB m s) (hU : m.base + m.bytes.length < U)
    (hfit : addr + count ≤ s.size) :
    (s.readExactVolatileFrom m addr r count).2.2 = .ok () ↔
      ((s.readExactVolatileFrom m addr r count).2.1.avail = r.avail.drop count ∧
       count ≤ r.avail.length ∧
       (s.readExactVolatileFrom m addr r count).1.bytes =
         splice m.bytes (s.addr - m.base + addr) (r.avail.take count)) := by
  obtain ⟨m', r', res, k, h, hkc, hle, hav, hb, _, _, _, _, hiff, _⟩ :=
    exact_spec m s addr r count hk hbm hin hU hfit
  rw [h]
  constructor
  · intro hok
    cases hiff.1 hok
    exact ⟨hav, hle, hb⟩
  · intro ⟨h1, h2, _⟩
    apply hiff.2
    -- the reader has `count` fewer bytes available, so `k = count`
    have := congrArg List.length h1
    rw [hav] at this
    simp at this
    omega

/-- A result that is not `Ok` is `UnexpectedEof` (a `zero`
    call or the end of data) or the stream's error (`fail`); in particular it is never
    `Interrupted` and never a panic. -/
theorem error_ends_and_is_reported (m : Mem) (s : VSlice) (addr : Nat) (r : Reader) (count : Nat)
    (hk : r.kind = .scripted) (hbm : BmInv m) (hin : InB m s) (hU : m.base + m.bytes.length < U)
    (hfit : addr + count ≤ s.size) :
    let res := (s.readExactVolatileFrom m addr r count).2.2
    (res = .ok () ∨ res = .err (.ioError IoKind.unexpectedEof) ∨
        res = .err (.ioError IoKind.other)) ∧
      res ≠ .err (.ioError IoKind.interrupted) ∧ res ≠ .panic := by
  obtain ⟨m', r', res, k, h, _, _, _, _, _, _, _, _, _, hres⟩ :=
    exact_spec m s addr r count hk hbm hin hU hfit
  rw [h]
  refine ⟨hres, ?_, ?_⟩ <;>
    rcases hres with h | h | h <;> rw [h] <;>
    simp [IoKind.unexpectedEof, IoKind.other, IoKind.interrupted]

/-- With fuel `p.size + 1` the model's loop never runs out of fuel
    (never returns the `panic` that stands for it), whatever the script. -/
theorem readExactLoop_fuel (r : Reader) (m : Mem) (p : VSlice) (hk : r.kind ≠ .fd)
    (hbm : BmInv m) (hin : InB m p) (hU : m.base + m.bytes.length < U) :
    (r.readExactLoop (p.size + 1) m p).2.2 ≠ .panic := by
  obtain ⟨m', r', res, k, h, _, _, hres⟩ :=
    Reader.readExactLoop_spec (p.size + 1) r m p hbm hin (Nat.lt_succ_self _)
  rw [h]
  rcases hres with ⟨h, _⟩ | ⟨_, h | ⟨e, h, _⟩⟩ | ⟨h, _⟩ <;> rw [h] <;> simp

/-- the window does not fit: an error value, nothing changed -/
theorem exact_out_of_bounds (m : Mem) (s : VSlice) (addr : Nat) (r : Reader) (count : Nat)
    (hfit : s.size < addr + count) :
    s.readExactVolatileFrom m addr r count =
      (m, r, .err (if addr + count < U then .outOfBounds else .overflow)) := by
  unfold VSlice.readExactVolatileFrom
  rw [subslice_checked]
  by_cases h : addr + count < U
  · rw [checked_oob h (Nat.not_le.2 hfit), if_pos h]
  · rw [checked_overflow h, if_neg h]

/-! ### 5. writers -/

/-- `write_volatile_to(addr, dst, count)` into a harness stream, for every script: the
    sink received exactly `(m.bytes.drop (o + addr)).take k`, appended in order, with
    `k ≤ min(s.size - addr, count)`; the call returns `Ok(k)`, or `k = 0` and the stream's own
    error.  Never `Interrupted`, never a panic.  Memory is only read. -/
theorem writeVolatileTo_spec (m : Mem) (s : VSlice) (addr : Nat) (w : Writer) (count : Nat)
    (hk : w.kind = .scripted) (hin : InB m s) (hU : m.base + m.bytes.length < U)
    (ha : addr ≤ s.size) :
    ∃ w' res k, s.writeVolatileTo m addr w count = (w', res) ∧
      k ≤ min (s.size - addr) count ∧
      w'.buf = w.buf ++ (m.bytes.drop (s.addr - m.base + addr)).take k ∧
      w'.kind = w.kind ∧ w'.pos = w.pos ∧
      (res = .ok k ∨ (k = 0 ∧ res = .err (.ioError IoKind.other))) := by
  have hroom : w.room = none := (Writer.room_none_iff w).2 (.inr (.inl hk))
  rw [writeVolatileTo_eq m s addr w count (hin.lt_U hU ha).1 ha (hin.lt_U hU (Nat.le_refl _)).2,
    ← DataLemmas.Win.ofs hin addr]
  obtain ⟨w', x, n, h, hn, ht, hx⟩ := Writer.writeRetry_took w
    (hin.window (Nat.add_le_of_le_sub' ha (Nat.min_le_left _ count))
      (sliceAt (sliceAt s.bmBase addr) 0))
  obtain ⟨hb, hkd, hp⟩ := ht.unbounded hroom
  exact ⟨w', x, n, h, hn, hb, hkd, hp, hx⟩

/-- `write_all_volatile_to(addr, dst, count)` into a harness stream (default loop),
    for every script: the sink received exactly `(m.bytes.drop (o + addr)).take k`, appended in
    order, `k ≤ count`; `Ok(())` iff `k = count`; otherwise `WriteZero` (a `zero` call) or the
    stream's error (`fail`).  Never `Interrupted`, never a panic. -/
theorem writeAllVolatileTo_spec (m : Mem) (s : VSlice) (addr : Nat) (w : Writer) (count : Nat)
    (hk : w.kind = .scripted) (hin : InB m s) (hU : m.base + m.bytes.length < U)
    (hfit : addr + count ≤ s.size) :
    ∃ w' res k, s.writeAllVolatileTo m addr w count = (w', res) ∧
      k ≤ count ∧
      w'.buf = w.buf ++ (m.bytes.drop (s.addr - m.base + addr)).take k ∧
      w'.kind = w.kind ∧ w'.pos = w.pos ∧
      (res = .ok () ↔ k = count) ∧
      (res = .ok () ∨ res = .err (.ioError IoKind.writeZero) ∨
        res = .err (.ioError IoKind.other)) := by
  have hlt := hin.lt_U hU hfit
  have hroom : w.room = none := (Writer.room_none_iff w).2 (.inr (.inl hk))
  rw [writeAllVolatileTo_eq m s addr w count hlt.2 hfit,
    Writer.writeAll_default w m _ (by rw [hk]; simp)
      (hin.lt_U hU (Nat.le_of_add_right_le hfit)).1]
  obtain ⟨w', res, k, h, hkc, ht, hres⟩ :=
    Writer.writeAllLoop_spec (count + 1) w m
      { addr := s.addr + addr, size := count, bmBase := sliceAt (sliceAt s.bmBase addr) 0 }
      (hin.window hfit _) (Nat.lt_succ_self count)
  rw [DataLemmas.Win.ofs hin addr] at ht
  obtain ⟨h1, h2⟩ := exact_outcome (addr := s.addr + addr) (Nat.add_assoc _ _ _ ▸ hlt.1) hkc hres
  obtain ⟨hb, hkd, hp⟩ := ht.unbounded hroom
  exact ⟨w', res, k, h, hkc, hb, hkd, hp, h1, h2⟩

/-! ### 6. frame -/

/-- The frame property as a consequence of the `splice` equation alone: if `k` bytes
    were spliced in at `o'`, every byte outside `[o', o' + k)` is unchanged. -/
theorem frame (l l' a : List UInt8) (o' k : Nat) (hk : k ≤ a.length) (ho : o' + k ≤ l.length)
    (h : l' = splice l o' (a.take k)) :
    ∀ i, i < o' ∨ o' + k ≤ i → l'[i]? = l[i]? := by
  intro i hi
  have hl : (a.take k).length = k := List.length_take_of_le hk
  rw [h]
  exact DataLemmas.splice_frame _ _ _ (hl.symm ▸ ho) i (hl.symm ▸ hi)

/-- and the transferred window holds exactly the consumed bytes, the length is unchanged -/
theorem stored (l l' a : List UInt8) (o' k : Nat) (hk : k ≤ a.length) (ho : o' + k ≤ l.length)
    (h : l' = splice l o' (a.take k)) :
    (l'.drop o').take k = a.take k ∧ l'.length = l.length := by
  have hl : (a.take k).length = k := List.length_take_of_le hk
  have h1 := DataLemmas.splice_read l o' (a.take k) (Nat.le_trans (Nat.le_add_right _ _) ho)
  have h2 := DataLemmas.splice_length l o' (a.take k) (hl.symm ▸ ho)
  rw [hl] at h1
  rw [h]; exact ⟨h1, h2⟩

/-! ### model remark: an allocation ending at `2^64` -/

/-- With `m.base + m.bytes.length = U` (excluded by the standing hypothesis, and impossible for
    a real allocation) `VolatileSlice::offset(size)` reports `Overflow` for the one-past-the-end
    pointer, so the exact loop would return an error after having moved everything. -/
theorem offset_at_top_overflows :
    (VSlice.mk (U - 1) 1 0).offset 1 = .err .overflow := by decide

/-! ### non-vacuity: concrete fault scripts -/

def exMem : Mem := { base := 0x1000, bytes := List.replicate 16 0, bm := none }
def exWin : VSlice := { addr := 0x1004, size := 8, bmBase := 4 }
def exReader (σ : List Beh) : Reader :=
  { kind := .scripted, data := [1, 2, 3, 4, 5], pos := 0, script := σ }

theorem exMem_ok : BmInv exMem ∧ InB exMem exWin ∧ exMem.base + exMem.bytes.length < U := by
  refine ⟨DataLemmas.BmInv_none _ rfl, by unfold InB; decide, by decide⟩

/-- `[eintr, short 2, eintr, eintr, zero]` on 5 bytes of data into an 8-byte window: two bytes
    stored, three left in the stream, then `UnexpectedEof`; the interruptions are invisible. -/
theorem ex_eintr_short_zero :
    exWin.readExactVolatileFrom exMem 0 (exReader [.eintr, .short 2, .eintr, .eintr, .zero]) 8 =
      ({ exMem with bytes := [0, 0, 0, 0, 1, 2, 0, 0, 0, 0, 0, 0, 0, 0, 0, 0] },
       { kind := .scripted, data := [3, 4, 5], pos := 0, script := [] },
       .err (.ioError IoKind.unexpectedEof)) := by decide +kernel

/-- `[short 1, full]` completes a 5-byte exact read exactly -/
theorem ex_short_full :
    exWin.readExactVolatileFrom exMem 0 (exReader [.short 1, .full]) 5 =
      ({ exMem with bytes := [0, 0, 0, 0, 1, 2, 3, 4, 5, 0, 0, 0, 0, 0, 0, 0] },
       { kind := .scripted, data := [], pos := 0, script := [] },
       .ok ()) := by decide +kernel

/-- a `fail` after a partial transfer: the error is reported, the two bytes stay stored -/
theorem ex_short_fail :
    exWin.readExactVolatileFrom exMem 1 (exReader [.short 2, .eintr, .fail, .full]) 4 =
      ({ exMem with bytes := [0, 0, 0, 0, 0, 1, 2, 0, 0, 0, 0, 0, 0, 0, 0, 0] },
       { kind := .scripted, data := [3, 4, 5], pos := 0, script := [.full] },
       .err (.ioError IoKind.other)) := by decide +kernel

/-- the up-to form under `[eintr, eintr, short 3]` returns `Ok(3)` -/
theorem ex_upto :
    exWin.readVolatileFrom exMem 2 (exReader [.eintr, .eintr, .short 3]) 100 =
      ({ exMem with bytes := [0, 0, 0, 0, 0, 0, 1, 2, 3, 0, 0, 0, 0, 0, 0, 0] },
       { kind := .scripted, data := [4, 5], pos := 0, script := [] },
       .ok 3) := by decide +kernel

def exMemW : Mem := { base := 0x1000, bytes := [10, 11, 12, 13, 14, 15, 16, 17], bm := none }
def exWinW : VSlice := { addr := 0x1002, size := 5, bmBase := 2 }

/-- writer: `[short 2, eintr, short 1, zero]`: three bytes reach the sink in order, then
    `WriteZero` -/
theorem ex_write_all :
    exWinW.writeAllVolatileTo exMemW 0
        { kind := .scripted, buf := [99], pos := 0, script := [.short 2, .eintr, .short 1, .zero] } 5 =
      ({ kind := .scripted, buf := [99, 12, 13, 14], pos := 0, script := [] },
       .err (.ioError IoKind.writeZero)) := by decide +kernel

#print axioms readVolatile_cases
#print axioms readVolatile_no_panic
#print axioms writeVolatile_cases
#print axioms eintr_invisible
#print axioms readRetry_drop_eintr
#print axioms readRetry_script
#print axioms eintr_invisible_write
#print axioms writeRetry_drop_eintr
#print axioms writeRetry_script
#print axioms in_order_no_gap_no_dup
#print axioms upto_returns_moved
#print axioms upto_out_of_bounds
#print axioms exact_spec
#print axioms exact_ok_iff_full
#print axioms error_ends_and_is_reported
#print axioms readExactLoop_fuel
#print axioms exact_out_of_bounds
#print axioms writeVolatileTo_spec
#print axioms writeAllVolatileTo_spec
#print axioms frame
#print axioms stored
#print axioms offset_at_top_overflows
#print axioms ex_eintr_short_zero
#print axioms ex_short_full
#print axioms ex_short_fail
#print axioms ex_upto
#print axioms ex_write_all

end VmMem.C14
