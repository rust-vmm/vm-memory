/-
  VmMem.Props.C17 — pointer guards span their accessor; on-demand windows cover every
  access and are released.

  Guard lengths: `guard_len_slice`, `guard_len_ref`, `guard_len_array` (the array case
  holds at full strength since the `fix:` commit for defect D3; `C01.guard_arr_defect_before_fix`
  keeps the refutation of the old code).
  Windows: for every page size, guest base, region offset and length > 0 the window
  requested by `MmapXenSlice::new_with` covers `[offset, offset + len)`, the pointer handed
  out designates `offset`, and after any sequence of accesses no mapping remains.
-/
import VmMem.Model.Xen
import VmMem.Lemmas.BitmapLemmas
import VmMem.Props.C01
namespace VmMem.C17
open VmMem VmMem.Xen

/-! ### guard lengths -/
theorem guard_len_slice (s : VSlice) : (guardOfSlice s).2 = s.size ∧ (guardOfSlice s).1 = s.addr := ⟨rfl, rfl⟩
theorem guard_len_ref (r : VRef) : (guardOfRef r).2 = r.ty.size ∧ (guardOfRef r).1 = r.addr := ⟨rfl, rfl⟩
theorem guard_len_array (a : VArr) : (guardOfArr a).2 = a.nelem * a.ty.size ∧ (guardOfArr a).1 = a.addr := ⟨rfl, rfl⟩

/-- the guard of every accessor spans exactly the bytes the accessor designates -/
theorem guard_spans (a : C01.Acc) :
    (match a with
      | .sl s => guardOfSlice s
      | .rf r => guardOfRef r
      | .ar x => guardOfArr x) = (a.lo, a.bytes) := by
  cases a <;> rfl

/-! ### windows -/

/-- the mapped window `[pageBase, pageBase + pages·page)` covers the requested bytes
    `[offset, offset + len)`, and the handed-out pointer (`pageBase + inOff`) is `offset` -/
theorem window_covers (page guestBase offset len : Nat) (hp : 0 < page) :
    let w := window page guestBase offset len
    w.pageBase ≤ offset ∧ offset + len ≤ w.pageBase + w.pages * page ∧
    w.pageBase + w.inOff = offset ∧ w.inOff < page ∧ w.pageBase % page = 0 := by
  simp only [window]
  have h1 := Nat.div_mul_le_self offset page
  have h2 := le_mul_divCeil (offset - offset / page * page + len) page hp
  rw [Nat.mul_comm page] at h2
  have h3 : offset - offset / page * page = offset % page := Nat.mod_eq_sub_div_mul.symm
  have h4 := Nat.mod_lt offset hp
  refine ⟨h1, ?_, ?_, ?_, ?_⟩
  · omega
  · omega
  · omega
  · exact Nat.mul_mod_left _ _

/-- every byte an access of `n ≤ len` bytes at `offset + d` (inside the guard) touches lies in the window -/
theorem access_inside_window (page guestBase offset len : Nat) (hp : 0 < page) (d n : Nat) (h : d + n ≤ len) :
    let w := window page guestBase offset len
    w.pageBase ≤ offset + d ∧ offset + d + n ≤ w.pageBase + w.pages * page := by
  have := window_covers page guestBase offset len hp
  omega

/-- a non-empty request maps at least one page; an empty one at a page-aligned offset would ask for
    0 bytes, which the kernel refuses (defect D5: since fix 62a8d5f no window is requested then) -/
theorem window_ok_of_pos (page guestBase offset len : Nat) (hp : 0 < page) (hl : 0 < len) :
    windowOk (window page guestBase offset len) = true := by
  have h := le_mul_divCeil (offset - offset / page * page + len) page hp
  simp only [windowOk, window]
  rcases Nat.eq_zero_or_pos (divCeil (offset - offset / page * page + len) page) with h0 | h0
  · rw [h0] at h; omega
  · exact decide_eq_true h0

theorem window_zero_aligned_fails (page guestBase offset : Nat) (hp : 0 < page) (ha : offset % page = 0) :
    windowOk (window page guestBase offset 0) = false := by
  have h3 : offset - offset / page * page = 0 := Nat.mod_eq_sub_div_mul.symm.trans ha
  simp [windowOk, window, h3, divCeil]
  omega

/-! ### release -/

/-- an access maps and unmaps the same `(index, count)` -/
theorem access_balanced (page guestBase offset len : Nat) :
    ∃ i c, accessReqs page guestBase offset len = [.map i c, .unmap i c] :=
  ⟨_, _, rfl⟩

theorem liveAfter_append_access (log : List Req) (page guestBase offset len : Nat) :
    liveAfter (log ++ accessReqs page guestBase offset len) = liveAfter log := by
  -- the pair just consed onto the live list is erased again
  rw [liveAfter, List.foldl_append]
  exact List.erase_cons_head ..

/-- after any sequence of accesses no temporary mapping remains -/
theorem windows_released (accs : List (Nat × Nat × Nat × Nat)) :
    liveAfter (accs.flatMap fun (p, g, o, l) => accessReqs p g o l) = [] := by
  -- generalise over the log accumulated so far
  suffices h : ∀ pre : List Req, liveAfter (pre ++ accs.flatMap fun (p, g, o, l) => accessReqs p g o l) = liveAfter pre by
    simpa [liveAfter] using h []
  induction accs with
  | nil => intro pre; simp
  | cons x xs ih =>
    intro pre
    rw [List.flatMap_cons, ← List.append_assoc, ih, liveAfter_append_access]

/-! ### non-vacuity -/
example : window 4096 0x10000 0x1ffe 5 = { pageBase := 0x1000, inOff := 0xffe, mapSize := 0x1003, pages := 2, index := 0x11 } := by decide
example : windowOk (window 4096 0 0x2000 0) = false := by decide
example : windowOk (window 4096 0 0x2001 0) = true := by decide

end VmMem.C17

#print axioms VmMem.C17.guard_len_slice
#print axioms VmMem.C17.guard_len_ref
#print axioms VmMem.C17.guard_len_array
#print axioms VmMem.C17.guard_spans
#print axioms VmMem.C17.window_covers
#print axioms VmMem.C17.access_inside_window
#print axioms VmMem.C17.window_ok_of_pos
#print axioms VmMem.C17.window_zero_aligned_fails
#print axioms VmMem.C17.access_balanced
#print axioms VmMem.C17.windows_released
