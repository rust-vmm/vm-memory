/-
  VmMem.Lemmas.ConstructLemmas — helper facts about `checkedAdd`, Xen flag words and the file check of a Xen request,
  for C15 and `Lemmas/XenBuildLemmas`.
-/
import VmMem.Model.Construct
namespace VmMem
namespace Construct

/-- core has no `DecidableEq (Except ε α)`; needed to evaluate closed model terms by `decide` -/
instance exceptDecEq {ε α : Type} [DecidableEq ε] [DecidableEq α] : DecidableEq (Except ε α) :=
  fun a b =>
    match a, b with
    | .ok x, .ok y => if h : x = y then isTrue (by rw [h]) else isFalse (fun e => h (by cases e; rfl))
    | .error x, .error y => if h : x = y then isTrue (by rw [h]) else isFalse (fun e => h (by cases e; rfl))
    | .ok _, .error _ => isFalse (fun e => by cases e)
    | .error _, .ok _ => isFalse (fun e => by cases e)

theorem checkedAdd_eq_some_iff (a b e : Nat) : checkedAdd a b = some e ↔ a + b < U ∧ e = a + b := by
  unfold checkedAdd
  split <;> simp_all <;> omega

theorem checkedAdd_eq_none_iff (a b : Nat) : checkedAdd a b = none ↔ U ≤ a + b := by
  unfold checkedAdd
  split <;> simp_all <;> omega

theorem toNat_le_of_and_not_known (w : Flags) (h : w &&& ~~~XEN_KNOWN = 0) : w.toNat ≤ 11 := by
  -- `w` is its own `XEN_KNOWN` part, and a conjunction with 11 is at most 11
  have hw : w = w &&& XEN_KNOWN :=
    calc w = w &&& (~~~XEN_KNOWN ||| XEN_KNOWN) := by rw [BitVec.not_or_self, BitVec.and_allOnes]
      _ = w &&& XEN_KNOWN := by
        rw [BitVec.and_or_distrib_left, h]
        exact BitVec.zero_or
  rw [hw, BitVec.toNat_and]
  exact Nat.and_le_right

theorem fromBits_eq_some_iff (w f : Flags) : fromBits w = some f ↔ w &&& ~~~XEN_KNOWN = 0 ∧ f = w := by
  unfold fromBits
  split <;> simp_all [eq_comm]

theorem fromBits_eq_none_iff (w : Flags) : fromBits w = none ↔ w &&& ~~~XEN_KNOWN ≠ 0 := by
  unfold fromBits
  split <;> simp_all

theorem xenFlagsAccepted_iff (w : Flags) : xenFlagsAccepted w = true ↔ fromBits w = some w ∧ isValid w = true := by
  unfold xenFlagsAccepted
  cases hf : fromBits w with
  | none => simp
  | some f =>
    obtain rfl := ((fromBits_eq_some_iff _ _).1 hf).2
    simp

/-- the check on the backing file that follows an accepted flag word: `validate_file` for foreign and grant
    mappings (`MmapXenForeign::new`, `MmapXenGrant::new`), `check_file_offset` otherwise (`MmapXenUnix::new`) -/
def fileCheck (f : Flags) (file : Option FileReq) (size : Nat) : Except BErr Unit :=
  if isForeign f || isGrant f then validateFile file
  else match file with
    | some fr => checkFileOffset fr size
    | none => .ok ()

theorem xenRest_eq (r : XenReq) :
    xenValidate.xenRest r =
      if xenFlagsAccepted r.xenFlags = true then fileCheck r.xenFlags r.file r.size
      else .error (.mmapFlags r.xenFlags.toNat) := by
  unfold xenValidate.xenRest xenFlagsAccepted fileCheck
  cases hf : fromBits r.xenFlags with
  | none => rfl
  | some f =>
    obtain rfl := ((fromBits_eq_some_iff _ _).1 hf).2
    cases hv : isValid r.xenFlags
    · simp only [hv]
      rfl
    · simp only [hv]
      rfl

theorem xenRest_ok {r : XenReq} (h : xenValidate.xenRest r = .ok ()) :
    xenFlagsAccepted r.xenFlags = true ∧ fileCheck r.xenFlags r.file r.size = .ok () := by
  rw [xenRest_eq] at h
  split at h
  · rename_i ha
    exact ⟨ha, h⟩
  · cases h

/-- what holds of the twelve words `0 … 11` holds of every word without unknown bits: such a word is at most
    `XEN_KNOWN` = 11.  This is what brings a statement about all 2^32 words down to a table. -/
theorem forall_known {P : Flags → Prop} (h : ∀ n < 12, P (BitVec.ofNat 32 n)) (w : Flags)
    (hw : w &&& ~~~XEN_KNOWN = 0) : P w := by
  have hle := toNat_le_of_and_not_known w hw
  have e : BitVec.ofNat 32 w.toNat = w := by simp
  exact e ▸ h _ (by omega)

end Construct
end VmMem
