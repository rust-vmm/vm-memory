/-
  VmMem.Lemmas.DataLemmas — the data-moving layer of `VmMem.Model.Volatile`.

  Every mutating operation of the model produces `splice m.bytes w d` for an explicit window, so
  "exactly the addressed bytes, in order, nothing else" is a fact about `splice`; `Stored` is the
  common post-condition and `store_core` is what all of them reduce to.  `Win` is
  the one notion of "inside the container" (`C04.Inside`, `C04.AInside`, `IoLemmas.InB` are
  instances); `readAt_sub` / `store_sub` / `copyToVolatileSlice_sub` are the raw accessors on a
  sub-window, with lengths as `≤`, in the form the operations of C04 need them.
-/
import VmMem.Model.Volatile
import VmMem.Lemmas.VolatileLemmas
import VmMem.Props.C09
namespace VmMem
namespace DataLemmas
open VolatileLemmas

/-! ### `splice` -/

/-- `l` with the bytes at `[o, o + d.length)` replaced by `d` -/
def splice (l : List UInt8) (o : Nat) (d : List UInt8) : List UInt8 :=
  l.take o ++ d ++ l.drop (o + d.length)

theorem splice_getElem? (l : List UInt8) (o : Nat) (d : List UInt8)
    (h : o + d.length ≤ l.length) (i : Nat) :
    (splice l o d)[i]? =
      if i < o then l[i]? else if i < o + d.length then d[i - o]? else l[i]? := by
  unfold splice
  simp only [List.getElem?_append, List.length_take, List.length_append, List.getElem?_take,
    List.getElem?_drop]
  have : min o l.length = o := by omega
  rw [this]
  by_cases h1 : i < o
  · simp [h1]; omega
  · by_cases h2 : i < o + d.length
    · simp [h1, h2]
    · simp [h1, h2]
      congr 1; omega

theorem splice_length (l : List UInt8) (o : Nat) (d : List UInt8) (h : o + d.length ≤ l.length) :
    (splice l o d).length = l.length := by
  unfold splice
  simp only [List.length_append, List.length_take, List.length_drop]
  omega

@[simp] theorem splice_nil (l : List UInt8) (o : Nat) : splice l o [] = l := by
  simp [splice]

theorem splice_frame (l : List UInt8) (o : Nat) (d : List UInt8) (h : o + d.length ≤ l.length)
    (i : Nat) (hi : i < o ∨ o + d.length ≤ i) : (splice l o d)[i]? = l[i]? := by
  rw [splice_getElem? l o d h]
  by_cases h1 : i < o
  · rw [if_pos h1]
  · have h2 : ¬ (i < o + d.length) := by omega
    rw [if_neg h1, if_neg h2]

theorem take_drop_getElem? (l : List UInt8) (o n i : Nat) :
    ((l.drop o).take n)[i]? = if i < n then l[o + i]? else none := by
  simp [List.getElem?_take, List.getElem?_drop]

theorem take_drop_length (l : List UInt8) (o n : Nat) (h : o + n ≤ l.length) :
    ((l.drop o).take n).length = n := by
  simp only [List.length_take, List.length_drop]; omega

theorem splice_read (l : List UInt8) (o : Nat) (d : List UInt8) (h : o ≤ l.length) :
    ((splice l o d).drop o).take d.length = d := by
  have hA : (l.take o).length = o := by simp; omega
  unfold splice
  rw [List.append_assoc, List.drop_left' hA, List.take_left' rfl]

/-! under the window condition of `writeAt` and `Stored`: the data fit at the offset, or there are none (zero bytes fit anywhere) -/
section fits
variable {l : List UInt8} {o : Nat} {d : List UInt8} (hw : d = [] ∨ o + d.length ≤ l.length)
include hw

theorem splice_length' : (splice l o d).length = l.length := by
  rcases hw with rfl | h
  · rw [splice_nil]
  · exact splice_length l o d h

theorem splice_frame' (i : Nat) (hi : i < o ∨ o + d.length ≤ i) : (splice l o d)[i]? = l[i]? := by
  rcases hw with rfl | h
  · rw [splice_nil]
  · exact splice_frame l o d h i hi

theorem splice_window (i : Nat) (hi : i < d.length) : (splice l o d)[o + i]? = d[i]? := by
  rcases hw with rfl | h
  · cases hi
  · rw [splice_getElem? l o d h]
    have h1 : ¬ (o + i < o) := by omega
    have h2 : o + i < o + d.length := by omega
    rw [if_neg h1, if_pos h2]
    congr 1; omega

theorem splice_read_same : ((splice l o d).drop o).take d.length = d := by
  rcases hw with rfl | h
  · rfl
  · exact splice_read l o d (Nat.le_trans (Nat.le_add_right _ _) h)

theorem splice_read_disjoint (o' n : Nat) (hd : o' + n ≤ o ∨ o + d.length ≤ o') :
    ((splice l o d).drop o').take n = (l.drop o').take n := by
  rcases hw with rfl | h
  · rw [splice_nil]
  · apply List.ext_getElem?
    intro i
    rw [take_drop_getElem?, take_drop_getElem?, splice_getElem? l o d h]
    by_cases hi : i < n
    · rw [if_pos hi, if_pos hi]
      by_cases h1 : o' + i < o
      · rw [if_pos h1]
      · have h2 : ¬ (o' + i < o + d.length) := by omega
        rw [if_neg h1, if_neg h2]
    · rw [if_neg hi, if_neg hi]
end fits

theorem splice_self (l : List UInt8) (o n : Nat) (h : o + n ≤ l.length) :
    splice l o ((l.drop o).take n) = l := by
  unfold splice
  rw [take_drop_length l o n h, List.append_assoc, ← List.drop_drop, List.take_append_drop,
    List.take_append_drop]

/-- two adjacent stores are one store, wherever the window lies -/
theorem splice_splice (l : List UInt8) (o : Nat) (d1 d2 : List UInt8) :
    splice (splice l o d1) (o + d1.length) d2 = splice l o (d1 ++ d2) := by
  unfold splice
  by_cases h : o ≤ l.length
  · have hA : (l.take o ++ d1).length = o + d1.length := by simp; omega
    rw [List.take_left' hA, ← List.drop_drop, List.drop_left' hA, List.drop_drop]
    simp [List.append_assoc, Nat.add_assoc]
  · -- the window starts behind the end: both sides append
    have h1 : l.take o = l := List.take_of_length_le (by omega)
    have h2 : ∀ n, l.drop (o + n) = [] := fun n => List.drop_eq_nil_of_le (by omega)
    have h3 : (l ++ d1).take (o + d1.length) = l ++ d1 := List.take_of_length_le (by simp; omega)
    have h4 : (l ++ d1).drop (o + d1.length + d2.length) = [] :=
      List.drop_eq_nil_of_le (by simp; omega)
    simp only [h1, h2, List.append_nil, h3, h4, List.append_assoc]

/-! ### raw accessors -/

theorem inBounds_iff (m : Mem) (addr n : Nat) :
    m.inBounds addr n = true ↔ n = 0 ∨ (m.base ≤ addr ∧ addr + n ≤ m.base + m.bytes.length) := by
  simp [Mem.inBounds]

theorem writeAt_eq (m : Mem) (addr : Nat) (d : List UInt8) :
    m.writeAt addr d =
      if d = [] ∨ (m.base ≤ addr ∧ addr + d.length ≤ m.base + m.bytes.length) then
        .ok { m with bytes := splice m.bytes (addr - m.base) d }
      else .panic := by
  simp only [Mem.writeAt, inBounds_iff, List.length_eq_zero_iff]
  rfl

theorem writeAt_ok (m : Mem) (addr : Nat) (d : List UInt8)
    (h : m.base ≤ addr ∧ addr + d.length ≤ m.base + m.bytes.length) :
    m.writeAt addr d = .ok { m with bytes := splice m.bytes (addr - m.base) d } := by
  rw [writeAt_eq, if_pos (Or.inr h)]

theorem writeAt_nil (m : Mem) (addr : Nat) : m.writeAt addr [] = .ok m := by
  rw [writeAt_eq, if_pos (Or.inl rfl), splice_nil]

theorem writeAt_panic (m : Mem) (addr : Nat) (d : List UInt8) (hd : d ≠ [])
    (h : ¬ (m.base ≤ addr ∧ addr + d.length ≤ m.base + m.bytes.length)) :
    m.writeAt addr d = .panic := by
  rw [writeAt_eq, if_neg (by simp [hd, h])]

theorem writeAt_inv {m m' : Mem} {addr : Nat} {d : List UInt8} (h : m.writeAt addr d = .ok m') :
    (d = [] ∨ (m.base ≤ addr ∧ addr + d.length ≤ m.base + m.bytes.length)) ∧
      m' = { m with bytes := splice m.bytes (addr - m.base) d } := by
  rw [writeAt_eq] at h
  split at h
  · cases h; exact ⟨by assumption, rfl⟩
  · cases h

theorem writeAt_base_bm {m m' : Mem} {addr : Nat} {d : List UInt8} (h : m.writeAt addr d = .ok m') :
    m'.base = m.base ∧ m'.bm = m.bm := by
  rw [(writeAt_inv h).2]; exact ⟨rfl, rfl⟩

theorem writeAt_length {m m' : Mem} {addr : Nat} {d : List UInt8} (h : m.writeAt addr d = .ok m') :
    m'.bytes.length = m.bytes.length := by
  obtain ⟨hb, rfl⟩ := writeAt_inv h
  exact splice_length' (hb.imp_right fun hb => by omega)

theorem writeAt_frame {m m' : Mem} {addr : Nat} {d : List UInt8} (h : m.writeAt addr d = .ok m')
    (i : Nat) (hi : i < addr - m.base ∨ addr - m.base + d.length ≤ i) : m'.bytes[i]? = m.bytes[i]? := by
  obtain ⟨hb, rfl⟩ := writeAt_inv h
  exact splice_frame' (hb.imp_right fun hb => by omega) i hi

theorem writeAt_window {m m' : Mem} {addr : Nat} {d : List UInt8} (h : m.writeAt addr d = .ok m')
    (i : Nat) (hi : i < d.length) : m'.bytes[addr - m.base + i]? = d[i]? := by
  obtain ⟨hb, rfl⟩ := writeAt_inv h
  exact splice_window (hb.imp_right fun hb => by omega) i hi

theorem readAt_eq (m : Mem) (addr n : Nat) :
    m.readAt addr n =
      if n = 0 ∨ (m.base ≤ addr ∧ addr + n ≤ m.base + m.bytes.length) then
        .ok ((m.bytes.drop (addr - m.base)).take n)
      else .panic := by
  simp only [Mem.readAt, inBounds_iff]

theorem readAt_ok (m : Mem) (addr n : Nat)
    (h : m.base ≤ addr ∧ addr + n ≤ m.base + m.bytes.length) :
    m.readAt addr n = .ok ((m.bytes.drop (addr - m.base)).take n) := by
  rw [readAt_eq, if_pos (Or.inr h)]

theorem readAt_zero (m : Mem) (addr : Nat) : m.readAt addr 0 = .ok [] := by
  rw [readAt_eq, if_pos (Or.inl rfl), List.take_zero]

theorem readAt_panic (m : Mem) (addr n : Nat) (hn : n ≠ 0)
    (h : ¬ (m.base ≤ addr ∧ addr + n ≤ m.base + m.bytes.length)) : m.readAt addr n = .panic := by
  rw [readAt_eq, if_neg (by simp [hn, h])]

theorem readAt_inv {m : Mem} {addr n : Nat} {d : List UInt8} (h : m.readAt addr n = .ok d) :
    (n = 0 ∨ (m.base ≤ addr ∧ addr + n ≤ m.base + m.bytes.length)) ∧
      d = (m.bytes.drop (addr - m.base)).take n := by
  rw [readAt_eq] at h
  split at h
  · cases h; exact ⟨by assumption, rfl⟩
  · cases h

theorem readAt_length {m : Mem} {addr n : Nat} {d : List UInt8} (h : m.readAt addr n = .ok d) :
    d.length = n := by
  obtain ⟨hb, rfl⟩ := readAt_inv h
  rcases hb with rfl | hb
  · simp
  · exact take_drop_length _ _ _ (by omega)

theorem readAt_getElem {m : Mem} {addr n : Nat} {d : List UInt8} (h : m.readAt addr n = .ok d)
    (i : Nat) (hi : i < n) : d[i]? = m.bytes[addr - m.base + i]? := by
  obtain ⟨_, rfl⟩ := readAt_inv h
  rw [take_drop_getElem?, if_pos hi]

theorem readAt_of_splice {m m' : Mem} {w : Nat} {d : List UInt8}
    (hb : m'.bytes = splice m.bytes w d) (hbase : m'.base = m.base)
    (hw : w + d.length ≤ m.bytes.length) : m'.readAt (m.base + w) d.length = .ok d := by
  have hl : m'.bytes.length = m.bytes.length := by rw [hb]; exact splice_length _ _ _ hw
  rw [readAt_ok _ _ _ (by rw [hbase, hl]; omega), hbase, hb, Nat.add_sub_cancel_left,
    splice_read_same (.inr hw)]

theorem readAt_of_splice_disjoint {m m' : Mem} {w : Nat} {d : List UInt8}
    (hb : m'.bytes = splice m.bytes w d) (hbase : m'.base = m.base)
    (hw : w + d.length ≤ m.bytes.length) (w' n : Nat) (hw' : w' + n ≤ m.bytes.length)
    (hd : w' + n ≤ w ∨ w + d.length ≤ w') :
    m'.readAt (m.base + w') n = m.readAt (m.base + w') n := by
  have hl : m'.bytes.length = m.bytes.length := by rw [hb]; exact splice_length _ _ _ hw
  rw [readAt_ok _ _ _ (by rw [hbase, hl]; omega), readAt_ok _ _ _ (by omega), hbase, hb,
    Nat.add_sub_cancel_left, splice_read_disjoint (.inr hw) _ _ hd]

theorem readAt_writeAt_same {m m' : Mem} {addr : Nat} {d : List UInt8}
    (h : m.writeAt addr d = .ok m') : m'.readAt addr d.length = .ok d := by
  obtain ⟨hb, rfl⟩ := writeAt_inv h
  rcases hb with rfl | hb
  · exact readAt_zero _ _
  · have := readAt_of_splice (m := m) (w := addr - m.base) (d := d)
      (m' := { m with bytes := splice m.bytes (addr - m.base) d }) rfl rfl (by omega)
    rwa [Nat.add_sub_cancel' hb.1] at this

theorem readAt_writeAt_disjoint {m m' : Mem} {addr : Nat} {d : List UInt8}
    (h : m.writeAt addr d = .ok m') (addr' n : Nat)
    (hin : m.base ≤ addr' ∧ addr' + n ≤ m.base + m.bytes.length)
    (hd : addr' + n ≤ addr ∨ addr + d.length ≤ addr') : m'.readAt addr' n = m.readAt addr' n := by
  obtain ⟨hb, rfl⟩ := writeAt_inv h
  rcases hb with rfl | hb
  · rw [splice_nil]
  · have := readAt_of_splice_disjoint (m := m) (w := addr - m.base) (d := d)
      (m' := { m with bytes := splice m.bytes (addr - m.base) d }) rfl rfl (by omega)
      (addr' - m.base) n (by omega) (by omega)
    rwa [Nat.add_sub_cancel' hin.1] at this

/-! ### marking -/

theorem mark_bytes {m m' : Mem} {b o l : Nat} (h : m.mark b o l = .ok m') :
    m'.bytes = m.bytes ∧ m'.base = m.base := by
  unfold Mem.mark at h
  split at h
  · cases h; exact ⟨rfl, rfl⟩
  · obtain ⟨b', _, hb'⟩ := (Res.bind_eq_ok _ _ _).1 h
    cases hb'; exact ⟨rfl, rfl⟩

/-- `mark_dirty(_, 0)` marks nothing: the program of `set_addr_range` is empty -/
theorem mark_zero (m : Mem) (bmBase off : Nat) : m.mark bmBase off 0 = .ok m := by
  unfold Mem.mark
  cases m with
  | mk base bytes bm =>
    cases bm with
    | none => rfl
    | some b => rfl

theorem mark_ne_err (m : Mem) (b o l : Nat) (e : Err) : m.mark b o l ≠ .err e := by
  unfold Mem.mark
  split
  · nofun
  · unfold markVia ABitmap.markDirty ABitmap.setResetAddrRange ABitmap.runProgram
    split <;> nofun

theorem mark_sliceAt_zero (m : Mem) (b o l : Nat) : m.mark (sliceAt b 0) o l = m.mark b o l := by
  unfold Mem.mark
  cases m.bm with
  | none => rfl
  | some bm =>
    show (markVia bm (sliceAt b 0) o l >>= _) = (markVia bm b o l >>= _)
    rw [C09.markVia_sliceAt, Nat.zero_add, C09.markVia_spec, C09.markVia_spec, Nat.add_mod_mod]

/-- marking does not look at the bytes -/
theorem mark_congr (m : Mem) (bs : List UInt8) (b o l : Nat) :
    ({ m with bytes := bs } : Mem).mark b o l =
      m.mark b o l >>= fun m0 => pure { m0 with bytes := bs } := by
  unfold Mem.mark
  cases m with
  | mk base bytes bm =>
    cases bm with
    | none => rfl
    | some bmv =>
      show (markVia bmv b o l >>= _) = (markVia bmv b o l >>= _) >>= _
      cases markVia bmv b o l <;> rfl

/-- the tracking bitmap (if any) satisfies the representation invariant of C09 -/
def BmInv (m : Mem) : Prop := ∀ b, m.bm = some b → C09.Inv b

theorem BmInv_none (m : Mem) (h : m.bm = none) : BmInv m := by
  intro b hb; rw [h] at hb; cases hb

theorem BmInv_congr {m m' : Mem} (h : m'.bm = m.bm) (hi : BmInv m) : BmInv m' := by
  intro b hb; rw [h] at hb; exact hi b hb

theorem mark_ok (m : Mem) (hinv : BmInv m) (b o l : Nat) :
    ∃ m', m.mark b o l = .ok m' ∧ BmInv m' ∧ m'.bytes = m.bytes ∧ m'.base = m.base := by
  unfold Mem.mark
  cases hbm : m.bm with
  | none => exact ⟨m, rfl, hinv, rfl, rfl⟩
  | some bm =>
    have hi := hinv bm hbm
    obtain ⟨bm', hok, hinv', _⟩ := C09.markVia_bits bm hi b o l
    refine ⟨{ m with bm := some bm' }, ?_, ?_, rfl, rfl⟩
    · show (markVia bm b o l >>= _) = _
      rw [hok]; rfl
    · intro b' hb'
      cases hb'; exact hinv'

/-! ### `Stored` — the common post-condition of all mutating operations -/

/-- `m'` is `m` after `d` was stored at container offset `w` and `mark_dirty(off, len)`
    went through a bitmap slice with base offset `bmBase`.  The three fields of `m'`
    are determined: bytes by `splice`, base unchanged, bitmap = that of `m.mark …`. -/
structure Stored (m : Mem) (w : Nat) (d : List UInt8) (bmBase off len : Nat) (m' : Mem) : Prop where
  bytes : m'.bytes = splice m.bytes w d
  length_eq : m'.bytes.length = m.bytes.length
  win : d = [] ∨ w + d.length ≤ m.bytes.length
  base : m'.base = m.base
  inv : BmInv m'
  bm : ∃ m0, m.mark bmBase off len = .ok m0 ∧ m'.bm = m0.bm

namespace Stored
variable {m m' : Mem} {w : Nat} {d : List UInt8} {bmBase off len : Nat}

theorem length (h : Stored m w d bmBase off len m') : m'.bytes.length = m.bytes.length := h.length_eq

theorem frame (h : Stored m w d bmBase off len m')
    (i : Nat) (hi : i < w ∨ w + d.length ≤ i) : m'.bytes[i]? = m.bytes[i]? := by
  rw [h.bytes]
  exact splice_frame' h.win i hi

theorem window (h : Stored m w d bmBase off len m')
    (i : Nat) (hi : i < d.length) : m'.bytes[w + i]? = d[i]? := by
  rw [h.bytes]
  exact splice_window h.win i hi

theorem readback (h : Stored m w d bmBase off len m') :
    (m'.bytes.drop w).take d.length = d := by
  rw [h.bytes]
  exact splice_read_same h.win

theorem readback_disjoint (h : Stored m w d bmBase off len m') (w' n : Nat)
    (hd : w' + n ≤ w ∨ w + d.length ≤ w') :
    (m'.bytes.drop w').take n = (m.bytes.drop w').take n := by
  rw [h.bytes]
  exact splice_read_disjoint h.win _ _ hd

theorem bytes_nil (h : Stored m w [] bmBase off len m') : m'.bytes = m.bytes := by
  rw [h.bytes, splice_nil]

theorem unique {m'' : Mem} (h1 : Stored m w d bmBase off len m')
    (h2 : Stored m w d bmBase off len m'') : m' = m'' := by
  obtain ⟨m0, hm0, hb1⟩ := h1.bm
  obtain ⟨m0', hm0', hb2⟩ := h2.bm
  rw [hm0] at hm0'; cases hm0'
  cases m'; cases m''
  simp only [Mem.mk.injEq]
  exact ⟨h1.base.trans h2.base.symm, h1.bytes.trans h2.bytes.symm, hb1.trans hb2.symm⟩

theorem eq_of_bm_none (h : Stored m w d bmBase off len m') (hn : m.bm = none) :
    m' = { m with bytes := splice m.bytes w d } := by
  obtain ⟨m0, hm0, hb⟩ := h.bm
  unfold Mem.mark at hm0
  rw [hn] at hm0
  cases hm0
  cases m'
  simp only [Mem.mk.injEq]
  exact ⟨h.base, h.bytes, hb⟩

theorem congr_mark {b' o' l' : Nat} (h : Stored m w d bmBase off len m')
    (hm : m.mark b' o' l' = m.mark bmBase off len) : Stored m w d b' o' l' m' :=
  ⟨h.bytes, h.length_eq, h.win, h.base, h.inv, hm ▸ h.bm⟩
end Stored

theorem Stored.refl {m : Mem} (hinv : BmInv m) (w b o : Nat) : Stored m w [] b o 0 m :=
  ⟨(splice_nil _ _).symm, rfl, .inl rfl, rfl, hinv, m, mark_zero m b o, rfl⟩

theorem store_core (m : Mem) (hinv : BmInv m) (addr : Nat) (d : List UInt8) (bmBase off len : Nat)
    (hb : m.base ≤ addr ∧ addr + d.length ≤ m.base + m.bytes.length) :
    ∃ m', (m.writeAt addr d >>= fun m1 => m1.mark bmBase off len) = .ok m' ∧
      Stored m (addr - m.base) d bmBase off len m' := by
  have hw : addr - m.base + d.length ≤ m.bytes.length := by omega
  obtain ⟨m0, hm0, hinv0, -, hba0⟩ := mark_ok m hinv bmBase off len
  rw [writeAt_ok m addr d hb, Res.bind_ok, mark_congr, hm0]
  exact ⟨_, rfl, ⟨rfl, splice_length _ _ _ hw, .inr hw, hba0, BmInv_congr rfl hinv0, m0, hm0, rfl⟩⟩

theorem copyToVolatileSlice_zero (m : Mem) (s : VSlice) (src : List UInt8) :
    copyToVolatileSlice m s src 0 = .ok (m, 0) := by
  unfold copyToVolatileSlice
  rw [List.take_zero, writeAt_nil, Res.bind_ok, mark_zero]
  rfl

theorem copyFromVolatileSlice_zero (m : Mem) (s : VSlice) :
    copyFromVolatileSlice m s 0 = .ok [] := readAt_zero m s.addr

/-- the only way `writeAt`-then-`mark` of an in-range window can fail is a panic inside
    the bitmap (an index outside the word vector — excluded by `BmInv`) -/
theorem store_core_cases (m : Mem) (addr : Nat) (d : List UInt8) (bmBase off len : Nat)
    (hb : d = [] ∨ (m.base ≤ addr ∧ addr + d.length ≤ m.base + m.bytes.length)) :
    (m.writeAt addr d >>= fun m1 => m1.mark bmBase off len) = .panic ∧ m.mark bmBase off len = .panic ∨
    ∃ m' m0, (m.writeAt addr d >>= fun m1 => m1.mark bmBase off len) = .ok m' ∧
      m.mark bmBase off len = .ok m0 ∧ m' = { m0 with bytes := splice m.bytes (addr - m.base) d } := by
  rw [writeAt_eq, if_pos hb, Res.bind_ok, mark_congr]
  cases hm : m.mark bmBase off len with
  | ok m0 => exact Or.inr ⟨_, m0, rfl, rfl, rfl⟩
  | panic => exact Or.inl ⟨rfl, rfl⟩
  | err e => exact absurd hm (mark_ne_err m bmBase off len e)

theorem copyToVolatileSlice_cases (m : Mem) (s : VSlice) (src : List UInt8) (total : Nat) :
    (∃ m', copyToVolatileSlice m s src total = .ok (m', total)) ∨
    copyToVolatileSlice m s src total = .panic := by
  unfold copyToVolatileSlice
  rw [writeAt_eq]
  split
  · rw [Res.bind_ok]
    cases hm : Mem.mark _ s.bmBase 0 total with
    | ok m2 => exact .inl ⟨m2, rfl⟩
    | err e => exact absurd hm (mark_ne_err _ _ _ _ e)
    | panic => exact .inr rfl
  · exact .inr rfl

/-- whatever the container: a successful `copy_to_volatile_slice` keeps base and length and
    touches nothing outside the `n` bytes at the start of the slice -/
theorem copyToVolatileSlice_frame {m m' : Mem} {s : VSlice} {src : List UInt8} {n k : Nat}
    (h : copyToVolatileSlice m s src n = .ok (m', k)) :
    m'.base = m.base ∧ m'.bytes.length = m.bytes.length ∧
      ∀ i, i < s.addr - m.base ∨ s.addr - m.base + n ≤ i → m'.bytes[i]? = m.bytes[i]? := by
  unfold copyToVolatileSlice at h
  obtain ⟨m1, h1, h⟩ := (Res.bind_eq_ok _ _ _).1 h
  obtain ⟨m2, h2, h⟩ := (Res.bind_eq_ok _ _ _).1 h
  cases h
  obtain ⟨hb, hbase⟩ := mark_bytes h2
  rw [hb, hbase]
  refine ⟨(writeAt_base_bm h1).1, writeAt_length h1, fun i hi => ?_⟩
  exact writeAt_frame h1 i (by have := List.length_take_le n src; omega)

theorem copyFromVolatileSlice_cases (m : Mem) (s : VSlice) (total : Nat) :
    copyFromVolatileSlice m s total = .ok ((m.bytes.drop (s.addr - m.base)).take total) ∨
    copyFromVolatileSlice m s total = .panic := by
  unfold copyFromVolatileSlice
  rw [readAt_eq]
  split
  · exact .inl rfl
  · exact .inr rfl

/-! ### windows of the container -/

/-- the host addresses `[a, a + n)` belong to the container -/
def Win (m : Mem) (a n : Nat) : Prop := m.base ≤ a ∧ a + n ≤ m.base + m.bytes.length

namespace Win
variable {m m' : Mem} {a n : Nat}

theorem sub (h : Win m a n) {o k : Nat} (hk : o + k ≤ n) : Win m (a + o) k := by
  have := h.1; have := h.2
  exact ⟨by omega, by omega⟩

theorem ofs (h : Win m a n) (o : Nat) : a + o - m.base = a - m.base + o :=
  Nat.sub_add_comm h.1

theorem end_le (h : Win m a n) : a - m.base + n ≤ m.bytes.length := by
  have := h.1; have := h.2
  omega

theorem le_length (h : Win m a n) : n ≤ m.bytes.length := by
  have := h.1; have := h.2
  omega

theorem take_length (h : Win m a n) {o k : Nat} (hk : o + k ≤ n) :
    ((m.bytes.drop (a - m.base + o)).take k).length = k :=
  take_drop_length _ _ _
    (Nat.le_trans (by rw [Nat.add_assoc]; exact Nat.add_le_add_left hk _) h.end_le)

theorem congr (hb : m'.base = m.base) (hl : m'.bytes.length = m.bytes.length) (h : Win m a n) :
    Win m' a n := by
  unfold Win; rw [hb, hl]; exact h
end Win

section sub
variable {m : Mem} {a n o k : Nat}

theorem readAt_sub (h : Win m a n) (hk : o + k ≤ n) :
    m.readAt (a + o) k = .ok ((m.bytes.drop (a - m.base + o)).take k) := by
  rw [readAt_ok _ _ _ (h.sub hk), h.ofs]

theorem readAt_win (h : Win m a n) (hk : k ≤ n) :
    m.readAt a k = .ok ((m.bytes.drop (a - m.base)).take k) :=
  readAt_ok _ _ _ ⟨h.1, Nat.le_trans (Nat.add_le_add_left hk a) h.2⟩

theorem store_sub (hinv : BmInv m) (h : Win m a n) (hk : o + k ≤ n) {d : List UInt8}
    (hd : d.length ≤ k) (b off len : Nat) :
    ∃ m', (m.writeAt (a + o) d >>= fun m1 => m1.mark b off len) = .ok m' ∧
      Stored m (a - m.base + o) d b off len m' := by
  have hw := h.sub (Nat.le_trans (Nat.add_le_add_left hd o) hk)
  rw [← h.ofs]
  exact store_core m hinv (a + o) d b off len hw

theorem store_win (hinv : BmInv m) (h : Win m a n) {d : List UInt8} (hd : d.length ≤ n)
    (b off len : Nat) :
    ∃ m', (m.writeAt a d >>= fun m1 => m1.mark b off len) = .ok m' ∧
      Stored m (a - m.base) d b off len m' :=
  store_core m hinv a d b off len ⟨h.1, Nat.le_trans (Nat.add_le_add_left hd a) h.2⟩

theorem copyToVolatileSlice_sub (hinv : BmInv m) (h : Win m a n) (hk : o + k ≤ n) (bm sz : Nat)
    (src : List UInt8) :
    ∃ m', copyToVolatileSlice m { addr := a + o, size := sz, bmBase := bm } src k = .ok (m', k) ∧
      Stored m (a - m.base + o) (src.take k) bm 0 k m' := by
  obtain ⟨m', h, hst⟩ := store_sub hinv h hk (List.length_take_le k src) bm 0 k
  obtain ⟨m1, h1, h2⟩ := (Res.bind_eq_ok _ _ _).1 h
  exact ⟨m', by simp only [copyToVolatileSlice, h1, h2, Res.bind_ok, Res.pure_eq], hst⟩
end sub

/-! ### `write_slice` once the outcome of its `write` is known -/

section writeSlice
variable {m m' : Mem} {s : VSlice} {buf : List UInt8} {addr n : Nat}

theorem writeSlice_of_ok (h : s.write m buf addr = .ok (m', n)) :
    s.writeSlice m buf addr =
      (m', if n ≠ buf.length then .err (.partialBuffer buf.length n) else .ok ()) := by
  unfold VSlice.writeSlice
  rw [h]
  dsimp only
  split <;> rfl

theorem writeSlice_of_err {e : Err} (h : s.write m buf addr = .err e) :
    s.writeSlice m buf addr = (m, .err e) := by
  unfold VSlice.writeSlice
  rw [h]
end writeSlice

end DataLemmas
end VmMem
