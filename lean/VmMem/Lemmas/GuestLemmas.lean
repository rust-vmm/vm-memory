/-
  VmMem.Lemmas.GuestLemmas — layouts and address resolution.

  `WF` is what the crate's safe constructors build; `WFT` also lets a region end exactly at 2^64, which no constructor of
  the crate builds but a third-party `GuestMemoryRegion` may (C02's quantifier: "any other implementation of the
  traits").  Whatever only reads a layout (`bsearch`, `findRegion`, the defaults built on it; the `try_access`
  loop is in `Lemmas/LoopLemmas`) is proved once, under `WFT`, and reaches `WF` through `WF.toWFT`; what builds a
  layout (`validatePairs`, `insertSorted`, used by C10) speaks of `WF`.  The namespace `TopLemmas` sets the `WFT` lemma
  `WF_nil` apart from its `WF` twin; `bsearch_ok_iff` shares it.  `trivCb` and `check_range` of length 0 are here
  because C18g, which imports this file only, needs them.
-/
import VmMem.Model.Guest
import VmMem.Lemmas.VolatileLemmas
namespace VmMem

/-- What the safe constructors guarantee (`GuestRegionMmap::new` checks
    `start.checked_add(len)`, i.e. `start + len < U`; an mmap of length 0 cannot be
    created; `from_arc_regions` checks order and overlap): every region is non-empty
    and ends below `2^64`, and every earlier region ends at or before the start of
    every later one (so starts are strictly increasing and regions pairwise disjoint;
    adjacency `prev.start + prev.len = next.start` is allowed). -/
def WF (m : GMem) : Prop :=
  (∀ r ∈ m, 0 < r.len ∧ r.start + r.len < U) ∧
  m.Pairwise (fun r s => r.start + r.len ≤ s.start)

instance (m : GMem) : Decidable (WF m) := by unfold WF; infer_instance

/-- as `WF`, but a region may end exactly at the top of the address space -/
def WFT (m : GMem) : Prop :=
  (∀ r ∈ m, 0 < r.len ∧ r.start + r.len ≤ U) ∧
  m.Pairwise (fun r s => r.start + r.len ≤ s.start)

instance (m : GMem) : Decidable (WFT m) := by unfold WFT; infer_instance

theorem WF.toWFT {m : GMem} (h : WF m) : WFT m :=
  ⟨fun r hr => ⟨(h.1 r hr).1, Nat.le_of_lt (h.1 r hr).2⟩, h.2⟩

/-- address `a` lies inside some region of the layout -/
def mapped (m : GMem) (a : Nat) : Prop := ∃ r ∈ m, r.start ≤ a ∧ a < r.start + r.len

instance (m : GMem) (a : Nat) : Decidable (mapped m a) := by unfold mapped; infer_instance

/-! ### `WFT`, `WF`: projections and recursive reading -/

theorem _root_.VmMem.WFT.mem {m : GMem} (h : WFT m) {r : Region} (hr : r ∈ m) :
    0 < r.len ∧ r.start + r.len ≤ U := h.1 r hr

theorem _root_.VmMem.WFT.getElem? {m : GMem} (h : WFT m) {i : Nat} {r : Region} (hi : m[i]? = some r) :
    0 < r.len ∧ r.start + r.len ≤ U := h.1 r (List.mem_of_getElem? hi)

theorem _root_.VmMem.WFT.lt {m : GMem} (h : WFT m) {i j : Nat} {r s : Region}
    (hi : m[i]? = some r) (hj : m[j]? = some s) (hij : i < j) : r.start + r.len ≤ s.start := by
  obtain ⟨hi', rfl⟩ := List.getElem?_eq_some_iff.1 hi
  obtain ⟨hj', rfl⟩ := List.getElem?_eq_some_iff.1 hj
  exact (List.pairwise_iff_getElem.1 h.2) i j hi' hj' hij

theorem _root_.VmMem.WFT.sublist {m m' : GMem} (h : WFT m) (hs : m'.Sublist m) : WFT m' :=
  ⟨fun r hr => h.1 r (hs.subset hr), h.2.sublist hs⟩

theorem _root_.VmMem.WFT.tail {r : Region} {rest : GMem} (h : WFT (r :: rest)) : WFT rest :=
  h.sublist (List.sublist_cons_self r rest)

theorem _root_.VmMem.WFT.starts_lt {m : GMem} (h : WFT m) : m.Pairwise (fun r s => r.start < s.start) :=
  h.2.imp_of_mem fun hr _ hrs => Nat.lt_of_lt_of_le (Nat.lt_add_of_pos_right (h.1 _ hr).1) hrs

namespace TopLemmas
@[simp] theorem WF_nil : WFT [] := by simp [WFT]
end TopLemmas

namespace GuestLemmas

/-- what `WF` asks of each region, as the safe constructor of a mapping yields it: non-empty, end below `2^64` -/
abbrev RegOk (r : Region) : Prop := 0 < r.len ∧ r.start + r.len < U

@[simp] theorem WF_nil : WF [] := by simp [WF]

theorem WF_cons (r : Region) (rest : GMem) :
    WF (r :: rest) ↔
      0 < r.len ∧ r.start + r.len < U ∧ (∀ x ∈ rest, r.start + r.len ≤ x.start) ∧ WF rest := by
  simp only [WF, List.mem_cons, forall_eq_or_imp, List.pairwise_cons]
  constructor
  · rintro ⟨⟨⟨h1, h2⟩, h3⟩, h4, h5⟩; exact ⟨h1, h2, h4, h3, h5⟩
  · rintro ⟨h1, h2, h4, h3, h5⟩; exact ⟨⟨⟨h1, h2⟩, h3⟩, h4, h5⟩

theorem _root_.VmMem.WF.tail {r : Region} {rest : GMem} (h : WF (r :: rest)) : WF rest :=
  ((WF_cons r rest).1 h).2.2.2

theorem _root_.VmMem.WF.mem {m : GMem} (h : WF m) {r : Region} (hr : r ∈ m) :
    0 < r.len ∧ r.start + r.len < U := h.1 r hr

theorem _root_.VmMem.WF.getElem? {m : GMem} (h : WF m) {i : Nat} {r : Region} (hi : m[i]? = some r) :
    0 < r.len ∧ r.start + r.len < U := h.1 r (List.mem_of_getElem? hi)

theorem _root_.VmMem.WF.sublist {m m' : GMem} (h : WF m) (hs : m'.Sublist m) : WF m' :=
  ⟨fun r hr => h.1 r (hs.subset hr), h.2.sublist hs⟩

/-! ### `mapped` -/

theorem mapped_of_getElem? {m : GMem} {a i : Nat} {r : Region} (hi : m[i]? = some r)
    (hin : r.start ≤ a ∧ a < r.start + r.len) : mapped m a :=
  ⟨r, List.mem_of_getElem? hi, hin⟩

theorem mapped_iff_getElem? (m : GMem) (a : Nat) :
    mapped m a ↔ ∃ (i : Nat) (r : Region), m[i]? = some r ∧ r.start ≤ a ∧ a < r.start + r.len := by
  constructor
  · rintro ⟨r, hr, h⟩
    obtain ⟨i, hi⟩ := List.getElem?_of_mem hr
    exact ⟨i, r, hi, h⟩
  · rintro ⟨i, r, hi, h⟩
    exact mapped_of_getElem? hi h

theorem mapped_or_not (m : GMem) (a : Nat) :
    (∃ (i : Nat) (r : Region), m[i]? = some r ∧ r.start ≤ a ∧ a < r.start + r.len) ∨ ¬ mapped m a :=
  (Decidable.em (mapped m a)).imp_left (mapped_iff_getElem? m a).1

theorem _root_.VmMem.WFT.mapped_lt_U {m : GMem} (h : WFT m) {a : Nat} (hm : mapped m a) : a < U := by
  obtain ⟨r, hr, _, h2⟩ := hm
  exact Nat.lt_of_lt_of_le h2 (h.mem hr).2

theorem region_unique {m : GMem} (h : WFT m) {a i j : Nat} {r s : Region}
    (hi : m[i]? = some r) (hj : m[j]? = some s)
    (hr : r.start ≤ a ∧ a < r.start + r.len) (hs : s.start ≤ a ∧ a < s.start + s.len) :
    i = j := by
  rcases Nat.lt_trichotomy i j with hlt | heq | hgt
  · have := h.lt hi hj hlt; omega
  · exact heq
  · have := h.lt hj hi hgt; omega

/-! ### Region defaults -/

theorem Region.lastAddr_eq {r : Region} (h : 0 < r.len ∧ r.start + r.len ≤ U) :
    r.lastAddr = .ok (r.start + r.len - 1) := by
  have h1 : 1 ≤ r.len := h.1
  unfold Region.lastAddr subP addP
  rw [if_pos h1, Res.bind_ok, ← Nat.add_sub_assoc h1, if_pos (by omega)]

theorem Region.toRegionAddr_eq {r : Region} {a : Nat} (h : r.start ≤ a ∧ a < r.start + r.len) :
    r.toRegionAddr a = some (a - r.start) := by
  unfold Region.toRegionAddr checkedSub Region.checkAddress Region.addressInRange
  have := Nat.sub_lt_left_of_lt_add h.1 h.2
  simp [h.1, this]

theorem Region.getSlice_eq (r : Region) (hl : r.len < U) (off cnt : Nat) :
    r.getSlice off cnt =
      if off + cnt ≤ r.len then
        .ok { addr := r.mem.base + off, size := cnt, bmBase := sliceAt 0 off }
      else .err .invalidBackendAddress := by
  unfold Region.getSlice
  rw [VolatileLemmas.subslice_checked, VolatileLemmas.checked]
  unfold Mem.root Region.len at *
  by_cases h2 : off + cnt ≤ r.mem.bytes.length
  · rw [if_pos (Nat.lt_of_le_of_lt h2 hl), if_pos h2, if_pos h2]
    rfl
  · rw [if_neg h2, if_neg h2]
    split
    · rfl
    · rfl

/-! ### bsearch -/

theorem bsearch_ok {m : GMem} {a i : Nat} (h : m.bsearch a = .ok i) :
    ∃ r, m[i]? = some r ∧ r.start = a := by
  unfold GMem.bsearch at h
  split at h
  · rename_i j hj
    cases h
    obtain ⟨hlt, hp, _⟩ := List.findIdx?_eq_some_iff_getElem.1 hj
    exact ⟨m[i], List.getElem?_eq_getElem hlt, by simpa using hp⟩
  · cases h

/-- in a list along which `p` can only turn from true to false, `countP p` is the length of the true prefix -/
theorem countP_prefix {α : Type} (p : α → Bool) {l : List α} (h : l.Pairwise (fun x y => p y → p x)) :
    ∀ i x, l[i]? = some x → (i < l.countP p ↔ p x) := by
  induction l with
  | nil => intro i x hi; simp at hi
  | cons y rest ih =>
    obtain ⟨hy, hrest⟩ := List.pairwise_cons.1 h
    intro i x hi
    by_cases hp : p y
    · rw [List.countP_cons_of_pos hp]
      cases i with
      | zero => cases hi; simp [hp]
      | succ j => exact (Nat.succ_lt_succ_iff).trans (ih hrest j x hi)
    · have hz : rest.countP p = 0 := List.countP_eq_zero.2 fun z hz hpz => hp (hy z hz hpz)
      rw [List.countP_cons_of_neg hp, hz]
      cases i with
      | zero => cases hi; simp [hp]
      | succ j => simpa using fun hpx => hp (hy x (List.mem_of_getElem? hi) hpx)

theorem bsearch_error {m : GMem} (h : m.Pairwise (fun r s => r.start < s.start)) {a x : Nat}
    (hb : m.bsearch a = .error x) :
    x ≤ m.length ∧ (∀ i r, m[i]? = some r → (i < x ↔ r.start < a)) ∧ ∀ r ∈ m, r.start ≠ a := by
  unfold GMem.bsearch at hb
  split at hb
  · cases hb
  · rename_i hn
    cases hb
    refine ⟨List.countP_le_length, ?_, fun r hr => by simpa using List.findIdx?_eq_none_iff.1 hn r hr⟩
    have := countP_prefix (fun r : Region => decide (r.start < a))
      (h.imp fun {r s} hlt hs => decide_eq_true (Nat.lt_trans hlt (of_decide_eq_true hs)))
    simpa using this

end GuestLemmas

namespace TopLemmas
open GuestLemmas

/-- `Ok(i)` of the search designates the first index whose start is `a` (in any layout); with strictly increasing starts
    it is the only one -/
theorem bsearch_ok_iff {m : GMem} (h : WFT m) (a i : Nat) :
    m.bsearch a = .ok i ↔ (m[i]?).map (·.start) = some a := by
  constructor
  · intro hb
    obtain ⟨r, hr, hs⟩ := bsearch_ok hb
    rw [hr, ← hs]
    rfl
  · intro hi
    obtain ⟨r, hr, rfl⟩ := Option.map_eq_some_iff.1 hi
    cases hb : m.bsearch r.start with
    | ok j =>
      obtain ⟨s, hs, hss⟩ := bsearch_ok hb
      have hlen := h.getElem? hr
      have hlen' := h.getElem? hs
      rw [region_unique (a := r.start) h hs hr (by omega) (by omega)]
    | error x => exact absurd rfl ((bsearch_error h.starts_lt hb).2.2 r (List.mem_of_getElem? hr))

end TopLemmas

namespace GuestLemmas

/-! ### findRegion -/

/-- `find_region` decides `mapped_or_not`: it never panics, an index it returns holds the address, and `None` means
    that no region does.  (The search lands on the last region starting at or below `a`; the regions before it end
    at or below its start, the regions after it start above `a`.) -/
theorem findRegion_cases {m : GMem} (h : WFT m) (a : Nat) :
    (∃ i r, m.findRegion a = .ok (some i) ∧ m[i]? = some r ∧ r.start ≤ a ∧ a < r.start + r.len) ∨
    (m.findRegion a = .ok none ∧ ¬ mapped m a) := by
  unfold GMem.findRegion
  cases hb : m.bsearch a with
  | ok j =>
    obtain ⟨s, hs, rfl⟩ := bsearch_ok hb
    exact Or.inl ⟨j, s, rfl, hs, Nat.le_refl _, Nat.lt_add_of_pos_right (h.getElem? hs).1⟩
  | error x =>
    obtain ⟨hxlen, hpre, hne⟩ := bsearch_error h.starts_lt hb
    -- a region holding `a` starts below `a`, so it is among the first `x`
    have hlow : ∀ i r, m[i]? = some r → r.start ≤ a → i < x := fun i r hi h1 =>
      (hpre i r hi).2 (Nat.lt_of_le_of_ne h1 (hne r (List.mem_of_getElem? hi)))
    by_cases hx0 : x > 0
    · have hx1 := Nat.sub_lt hx0 Nat.one_pos
      obtain ⟨s, hs⟩ : ∃ s, m[x - 1]? = some s := ⟨_, List.getElem?_eq_getElem (Nat.lt_of_lt_of_le hx1 hxlen)⟩
      have hsl := h.getElem? hs
      have hsa := (hpre _ _ hs).1 hx1
      simp only [hx0, if_true, hs, Region.lastAddr_eq hsl, Res.bind_ok]
      by_cases hle : a ≤ s.start + s.len - 1
      · rw [if_pos hle]
        exact Or.inl ⟨_, s, rfl, hs, Nat.le_of_lt hsa, Nat.lt_of_le_sub_one (Nat.add_pos_right _ hsl.1) hle⟩
      · rw [if_neg hle]
        refine Or.inr ⟨rfl, fun hm => ?_⟩
        obtain ⟨i, r, hi, h1, h2⟩ := (mapped_iff_getElem? m a).1 hm
        rcases Nat.lt_or_eq_of_le (Nat.le_sub_one_of_lt (hlow i r hi h1)) with hlt | rfl
        · exact Nat.lt_irrefl _ (Nat.lt_of_lt_of_le h2 (Nat.le_trans (h.lt hi hs hlt) (Nat.le_of_lt hsa)))
        · cases hs.symm.trans hi
          exact hle (Nat.le_sub_one_of_lt h2)
    · refine Or.inr ⟨by simp only [hx0, if_false], fun hm => ?_⟩
      obtain ⟨i, r, hi, h1, _⟩ := (mapped_iff_getElem? m a).1 hm
      exact hx0 (Nat.zero_lt_of_lt (hlow i r hi h1))

theorem findRegion_of_getElem? {m : GMem} (h : WFT m) {a i : Nat} {r : Region}
    (hi : m[i]? = some r) (hin : r.start ≤ a ∧ a < r.start + r.len) :
    m.findRegion a = .ok (some i) := by
  rcases findRegion_cases h a with ⟨j, s, hf, hs, hsin⟩ | ⟨_, hn⟩
  · rw [hf, region_unique h hs hi hsin hin]
  · exact absurd (mapped_of_getElem? hi hin) hn

theorem findRegion_of_unmapped {m : GMem} (h : WFT m) {a : Nat} (hn : ¬ mapped m a) :
    m.findRegion a = .ok none := by
  rcases findRegion_cases h a with ⟨j, s, _, hs, hsin⟩ | ⟨hf, _⟩
  · exact absurd (mapped_of_getElem? hs hsin) hn
  · exact hf

/-! ### defaults of `GuestMemory`, evaluated -/

theorem toRegionAddr_of_getElem? {m : GMem} (h : WFT m) {a i : Nat} {r : Region}
    (hi : m[i]? = some r) (hin : r.start ≤ a ∧ a < r.start + r.len) :
    m.toRegionAddr a = .ok (some (i, a - r.start)) := by
  unfold GMem.toRegionAddr
  rw [findRegion_of_getElem? h hi hin]
  simp [hi, Region.toRegionAddr_eq hin, Res.unwrap]

theorem toRegionAddr_of_unmapped {m : GMem} (h : WFT m) {a : Nat} (hn : ¬ mapped m a) :
    m.toRegionAddr a = .ok none := by
  unfold GMem.toRegionAddr
  rw [findRegion_of_unmapped h hn]
  simp

/-! ### `check_range`: its callback, and the call as a call of the loop -/

/-- `|_, count, _, _| -> Ok(count)` -/
def trivCb : GMem → Unit → Nat → Nat → Nat → Nat → GMem × Unit × Res Nat :=
  fun m _ _ len _ _ => (m, (), .ok len)

theorem checkRange_eq (m : GMem) (base len : Nat) (hpos : 0 < len) :
    m.checkRange base len =
      match GMem.tryAccessLoop trivCb len base m () base 0 with
      | (_, _, .ok n) => .ok (n == len)
      | (_, _, .err _) => .ok false
      | (_, _, .panic) => .panic := by
  simp only [GMem.checkRange, GMem.tryAccess, Nat.ne_of_gt hpos, if_false]
  rfl

/-- `try_access` returns `Ok(0)` for `count == 0` before looking at any region -/
theorem checkRange_zero_eq (m : GMem) (base : Nat) : m.checkRange base 0 = .ok true := by
  simp [GMem.checkRange, GMem.tryAccess]

/-! ### building and editing the map -/

theorem WF_singleton {p : Region} (hp : RegOk p) : WF [p] :=
  (WF_cons p []).2 ⟨hp.1, hp.2, nofun, WF_nil⟩

theorem WF_cons_cons (p n : Region) (l : GMem) :
    WF (p :: n :: l) ↔ RegOk p ∧ p.start + p.len ≤ n.start ∧ WF (n :: l) := by
  rw [WF_cons]
  constructor
  · rintro ⟨h1, h2, h3, hw⟩
    exact ⟨⟨h1, h2⟩, h3 n List.mem_cons_self, hw⟩
  · rintro ⟨hp, hpn, hw⟩
    refine ⟨hp.1, hp.2, fun x hx => ?_, hw⟩
    rcases List.mem_cons.1 hx with rfl | hx
    · exact hpn
    · exact Nat.le_trans hpn (Nat.le_trans (Nat.le_add_right _ _) (((WF_cons n l).1 hw).2.2.1 x hx))

theorem not_WF_of_offending {pre : GMem} {prev next : Region} {post : GMem}
    (hlt : next.start < prev.start + prev.len) : ¬ WF (pre ++ prev :: next :: post) := fun hw =>
  have := (WF_cons_cons prev next post).1 (hw.sublist (List.sublist_append_right pre _))
  absurd this.2.1 (Nat.not_le.2 hlt)

/-- one turn of the `windows(2)` loop of `from_arc_regions`: a pair of which the second starts before the first ends is
    reported, as `unsorted` if it is that (the source tests this first) -/
theorem validatePairs_cons_cons {p : Region} (hp : RegOk p) (n : Region) (rest : GMem) :
    GMem.validatePairs (p :: n :: rest) =
      if n.start < p.start + p.len then .ok (some (if p.start > n.start then .unsorted else .overlap))
      else GMem.validatePairs (n :: rest) := by
  rw [GMem.validatePairs, Region.lastAddr_eq ⟨hp.1, Nat.le_of_lt hp.2⟩]
  simp only [Res.bind_ok, Res.pure_eq]
  by_cases h1 : p.start > n.start
  · rw [if_pos h1, if_pos (Nat.lt_add_right _ h1), if_pos h1]
  · rw [if_neg h1]
    by_cases h2 : n.start < p.start + p.len
    · rw [if_pos (Nat.le_sub_one_of_lt h2), if_pos h2, if_neg h1]
    · rw [if_neg (by omega), if_neg h2]

/-- a pair of which the second starts before the first ends, everything up to the first being a layout, is the first
    such pair: the loop reports it -/
theorem validatePairs_offending (pre : GMem) {prev next : Region} (post : GMem)
    (hwf : WF (pre ++ [prev])) (hlt : next.start < prev.start + prev.len) :
    GMem.validatePairs (pre ++ prev :: next :: post) =
      .ok (some (if prev.start > next.start then .unsorted else .overlap)) := by
  induction pre with
  | nil => exact (validatePairs_cons_cons (hwf.mem List.mem_cons_self) next post).trans (if_pos hlt)
  | cons x pre' ih =>
    cases pre' with
    | nil =>
      obtain ⟨hx, hxy, hw⟩ := (WF_cons_cons x prev []).1 hwf
      exact (validatePairs_cons_cons hx prev _).trans ((if_neg (Nat.not_lt.2 hxy)).trans (ih hw))
    | cons y pre'' =>
      obtain ⟨hx, hxy, hw⟩ := (WF_cons_cons x y _).1 hwf
      exact (validatePairs_cons_cons hx y _).trans ((if_neg (Nat.not_lt.2 hxy)).trans (ih hw))

/-- either the loop accepts the list and it is a layout, or there is a first adjacent pair `prev`, `next` with `next`
    starting before `prev` ends (everything up to `prev` is a layout), whose report `validatePairs_offending` gives -/
theorem validatePairs_cases (rs : GMem) (hr : ∀ r ∈ rs, RegOk r) :
    (GMem.validatePairs rs = .ok none ∧ WF rs) ∨
    ∃ pre prev next post, rs = pre ++ prev :: next :: post ∧ WF (pre ++ [prev]) ∧
      next.start < prev.start + prev.len := by
  induction rs with
  | nil => exact Or.inl ⟨rfl, WF_nil⟩
  | cons p tl ih =>
    have hp := hr p List.mem_cons_self
    cases tl with
    | nil => exact Or.inl ⟨rfl, WF_singleton hp⟩
    | cons n rest =>
      rw [validatePairs_cons_cons hp]
      by_cases hoff : n.start < p.start + p.len
      · exact Or.inr ⟨[], p, n, rest, rfl, WF_singleton hp, hoff⟩
      · rw [if_neg hoff, WF_cons_cons]
        rcases ih (fun r h => hr r (List.mem_cons_of_mem _ h)) with
          ⟨hv, hw⟩ | ⟨pre, prev, next, post, heq, hw, hlt⟩
        · exact Or.inl ⟨hv, hp, Nat.le_of_not_lt hoff, hw⟩
        · refine Or.inr ⟨p :: pre, prev, next, post, by rw [heq]; rfl, ?_, hlt⟩
          -- `pre ++ [prev]` starts with `n`
          cases pre with
          | nil => cases heq; exact (WF_cons_cons p n []).2 ⟨hp, Nat.le_of_not_lt hoff, hw⟩
          | cons y pre' => cases heq; exact (WF_cons_cons p n _).2 ⟨hp, Nat.le_of_not_lt hoff, hw⟩

theorem fromRegions_of_ne_nil {rs : GMem} (hne : rs ≠ []) :
    GMem.fromRegions rs =
      (GMem.validatePairs rs >>= fun o =>
        match o with
        | some e => pure (.error e)
        | none => pure (.ok rs)) := by
  unfold GMem.fromRegions
  cases rs with
  | nil => exact absurd rfl hne
  | cons x xs => rfl

theorem insertSorted_perm (r : Region) (m : GMem) : (GMem.insertSorted r m).Perm (r :: m) := by
  induction m with
  | nil => exact List.Perm.refl _
  | cons y ys ih =>
    unfold GMem.insertSorted
    split
    · exact (List.Perm.cons y ih).trans (List.Perm.swap r y ys)
    · exact List.Perm.refl _

theorem insertSorted_sorted (r : Region) (m : GMem)
    (hs : m.Pairwise (fun r s => r.start ≤ s.start)) :
    (GMem.insertSorted r m).Pairwise (fun r s => r.start ≤ s.start) := by
  induction m with
  | nil => simp [GMem.insertSorted]
  | cons y ys ih =>
    have hs' := List.pairwise_cons.1 hs
    unfold GMem.insertSorted
    split
    · rename_i hle
      refine List.pairwise_cons.2 ⟨?_, ih hs'.2⟩
      intro x hx
      rcases List.mem_cons.1 ((insertSorted_perm r ys).mem_iff.1 hx) with rfl | hx
      · exact hle
      · exact hs'.1 x hx
    · refine List.pairwise_cons.2 ⟨?_, hs⟩
      intro x hx
      rcases List.mem_cons.1 hx with rfl | hx
      · omega
      · have := hs'.1 x hx; omega

theorem WF_iff_sorted_disjoint (m : GMem) :
    WF m ↔ (∀ r ∈ m, RegOk r) ∧ m.Pairwise (fun r s => r.start ≤ s.start) ∧
      m.Pairwise (fun r s => r.start + r.len ≤ s.start ∨ s.start + s.len ≤ r.start) := by
  constructor
  · rintro ⟨h1, h2⟩
    exact ⟨h1, h2.imp (by omega), h2.imp Or.inl⟩
  · rintro ⟨h1, h2, h3⟩
    refine ⟨h1, (h2.and h3).imp_of_mem fun {r s} _ hs hrs => ?_⟩
    have := (h1 s hs).1
    omega

/-- the result is sorted and holds the same regions, and disjointness does not depend on the order -/
theorem WF_insertSorted_iff {m : GMem} (h : WF m) {r : Region} (hr : RegOk r) :
    WF (GMem.insertSorted r m) ↔
      ∀ x ∈ m, r.start + r.len ≤ x.start ∨ x.start + x.len ≤ r.start := by
  obtain ⟨h1, h2, h3⟩ := (WF_iff_sorted_disjoint m).1 h
  rw [WF_iff_sorted_disjoint, (insertSorted_perm r m).pairwise_iff Or.symm, List.pairwise_cons]
  constructor
  · exact fun hw => hw.2.2.1
  · exact fun hd => ⟨fun x hx => (List.forall_mem_cons (p := RegOk)).2 ⟨hr, h1⟩ x ((insertSorted_perm r m).mem_iff.1 hx),
      insertSorted_sorted r m h2, hd, h3⟩

end GuestLemmas
end VmMem
