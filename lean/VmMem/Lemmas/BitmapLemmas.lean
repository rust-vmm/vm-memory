/-
  VmMem.Lemmas.BitmapLemmas — lemmas about `VmMem.Model.Bitmap` for `VmMem.Props.C08` and
  `VmMem.Props.C09`: one atomic step on one bit (`AStep.run_bit`), store-free runs, the
  bit-setting programs as lists of pages (`pageSteps`), the programs that visit every word
  once; general arithmetic of `divCeil`, pages and `wrappingAdd` (C17 uses `le_mul_divCeil`).
-/
import VmMem.Model.Bitmap
namespace VmMem

/-! ## Lists of words -/

theorem getD_set_words (s : Words) (i j : Nat) (v : BitVec 64) :
    (s.set i v).getD j 0 = if i = j ∧ i < s.length then v else s.getD j 0 := by
  simp only [List.getD_eq_getElem?_getD, List.getElem?_set]
  by_cases hij : i = j
  · subst hij
    by_cases hl : i < s.length
    · simp [hl]
    · simp [hl]
  · simp [hij]

theorem getD_of_length_le (s : Words) (j : Nat) (h : s.length ≤ j) : s.getD j 0 = 0 := by
  simp [List.getD_eq_getElem?_getD, List.getElem?_eq_none h]

theorem words_ext (s t : Words) (hl : s.length = t.length)
    (h : ∀ j, s.getD j 0 = t.getD j 0) : s = t := by
  apply List.ext_getElem hl
  intro i h1 h2
  have := h i
  simpa [List.getD_eq_getElem?_getD, List.getElem?_eq_getElem h1, List.getElem?_eq_getElem h2]
    using this

/-! ## Single bits -/

/-- bit `p` of a word vector (word `p / 64`, bit `p % 64`); `false` beyond the end. -/
def testBit (s : Words) (p : Nat) : Bool := (s.getD (p / 64) 0).getLsbD (p % 64)

theorem bitMask_getLsbD (n i : Nat) : (bitMask n).getLsbD i = decide (i = n % 64) := by
  rw [show bitMask n = BitVec.twoPow 64 (n % 64) from rfl, BitVec.getLsbD_twoPow,
    decide_eq_true (Nat.mod_lt n (by decide : 0 < 64)), Bool.true_and]
  exact decide_eq_decide.2 eq_comm

theorem testBit_of_length_le (s : Words) (p : Nat) (h : 64 * s.length ≤ p) : testBit s p = false := by
  unfold testBit
  rw [getD_of_length_le s (p / 64) ((Nat.le_div_iff_mul_le (by decide)).2 (Nat.mul_comm 64 _ ▸ h))]
  simp

/-! ## Steps -/

namespace AStep

theorem run_length (s : Words) (a : AStep) : (a.run s).1.length = s.length := by
  cases a <;> simp [run]

/-- a step that reads word `w` (an RMW step or a load on `w`): its return value is the word -/
def reads (w : Nat) : AStep → Bool
  | fetchOr w' _ | fetchAnd w' _ | load w' => w' == w
  | store _ _ => false

theorem run_ret_of_reads (s : Words) (w : Nat) (a : AStep) (h : a.reads w = true) :
    (a.run s).2 = s.getD w 0 := by
  cases a <;> simp [reads] at h <;> simp [run, h]

theorem reads_of_clears (w bit : Nat) (a : AStep) (h : a.clears w bit = true) :
    a.reads w = true := by
  cases a <;> simp_all [clears, reads]

theorem reads_of_sets (w bit : Nat) (a : AStep) (h : a.sets w bit = true) :
    a.reads w = true := by
  cases a <;> simp_all [sets, reads]

/-- A step other than a plain store maps bit `i` of word `w` from `x` to
    `(x || sets) && !clears` (a `fetch_or` beyond the end of the vector sets nothing). -/
theorem run_bit (s : Words) (a : AStep) (w i : Nat) (hns : a.isStore = false) :
    ((a.run s).1.getD w 0).getLsbD i =
      (((s.getD w 0).getLsbD i || (a.sets w i && decide (w < s.length))) && !a.clears w i) := by
  cases a with
  | fetchOr w' m =>
    simp only [run, sets, clears, getD_set_words, Bool.not_false, Bool.and_true]
    by_cases e : w' = w
    · subst e
      by_cases hl : w' < s.length
      · rw [if_pos ⟨rfl, hl⟩, BitVec.getLsbD_or, beq_self_eq_true, Bool.true_and, decide_eq_true hl,
          Bool.and_true]
      · rw [if_neg (fun h => hl h.2), decide_eq_false hl, Bool.and_false, Bool.or_false]
    · rw [if_neg (fun h => e h.1), beq_false_of_ne e, Bool.false_and, Bool.false_and, Bool.or_false]
  | fetchAnd w' m =>
    simp only [run, sets, clears, getD_set_words, Bool.false_and, Bool.or_false]
    by_cases e : w' = w
    · subst e
      by_cases hl : w' < s.length
      · rw [if_pos ⟨rfl, hl⟩, BitVec.getLsbD_and, beq_self_eq_true, Bool.true_and, Bool.not_not]
      · have hz : (0 : BitVec 64).getLsbD i = false := BitVec.getLsbD_zero
        rw [if_neg (fun h => hl h.2), getD_of_length_le s w' (by omega), hz, Bool.false_and]
    · rw [if_neg (fun h => e h.1), beq_false_of_ne e, Bool.false_and, Bool.not_false, Bool.and_true]
  | load w' =>
    simp only [run, sets, clears, Bool.false_and, Bool.or_false, Bool.not_false, Bool.and_true]
  | store w' v => cases hns

end AStep

/-! ## `runAll` -/

theorem runAll_nil (s : Words) : runAll s [] = (s, []) := rfl

theorem runAll_cons (s : Words) (a : AStep) (rest : List AStep) :
    runAll s (a :: rest)
      = ((runAll (a.run s).1 rest).1, (a.run s).2 :: (runAll (a.run s).1 rest).2) := rfl

theorem runAll_length (s : Words) (σ : List AStep) : (runAll s σ).1.length = s.length := by
  induction σ generalizing s with
  | nil => rfl
  | cons a rest ih => rw [runAll_cons]; simp [ih, AStep.run_length]

theorem runAll_rets_length (s : Words) (σ : List AStep) : (runAll s σ).2.length = σ.length := by
  induction σ generalizing s with
  | nil => rfl
  | cons a rest ih => rw [runAll_cons]; simp [ih]

theorem runAll_append (s : Words) (σ₁ σ₂ : List AStep) :
    runAll s (σ₁ ++ σ₂)
      = ((runAll (runAll s σ₁).1 σ₂).1, (runAll s σ₁).2 ++ (runAll (runAll s σ₁).1 σ₂).2) := by
  induction σ₁ generalizing s with
  | nil => simp [runAll_nil]
  | cons a rest ih => simp only [List.cons_append, runAll_cons, ih]

theorem runAll_ret (s : Words) (σ : List AStep) (j : Nat) (hj : j < σ.length) (w : Nat)
    (hr : (σ[j]).reads w = true) :
    (runAll s σ).2.getD j 0 = (runAll s (σ.take j)).1.getD w 0 := by
  induction σ generalizing s j with
  | nil => cases hj
  | cons a σ ih =>
    rw [runAll_cons]
    cases j with
    | zero => exact AStep.run_ret_of_reads s w a hr
    | succ j => exact ih (a.run s).1 j (Nat.lt_of_succ_lt_succ hj) hr

/-- In a store-free run a bit keeps its value `v` as long as no step flips it: none clears
    it if it is set, none sets it if it is clear. -/
theorem runAll_keeps (s : Words) (w bit : Nat) (v : Bool) (σ : List AStep)
    (hv : (s.getD w 0).getLsbD bit = v) (hns : ∀ a ∈ σ, a.isStore = false)
    (hk : ∀ a ∈ σ, (bif v then a.clears w bit else a.sets w bit) = false) :
    ((runAll s σ).1.getD w 0).getLsbD bit = v := by
  induction σ generalizing s with
  | nil => exact hv
  | cons a σ ih =>
    obtain ⟨hns1, hns2⟩ := List.forall_mem_cons.1 hns
    obtain ⟨hk1, hk2⟩ := List.forall_mem_cons.1 hk
    refine ih (a.run s).1 ?_ hns2 hk2
    rw [AStep.run_bit s a w bit hns1, hv]
    cases v
    · rw [show a.sets w bit = false from hk1]
      rfl
    · rw [show a.clears w bit = false from hk1]
      rfl

/-! ## The step for one page -/

open ABitmap

theorem bitStep_isStore (n : Nat) (set : Bool) : (bitStep n set).isStore = false := by
  cases set <;> rfl

theorem div_mod_64_inj {n p : Nat} : (n / 64 = p / 64 ∧ p % 64 = n % 64) ↔ n = p := by
  constructor
  · rintro ⟨h1, h2⟩
    rw [← Nat.div_add_mod n 64, ← Nat.div_add_mod p 64, h1, h2]
  · rintro rfl
    exact ⟨rfl, rfl⟩

theorem bitStep_sets (n p : Nat) (set : Bool) :
    (bitStep n set).sets (p / 64) (p % 64) = (set && decide (n = p)) := by
  cases set
  · rfl
  · rw [Bool.eq_iff_iff]
    simp only [bitStep, AStep.sets, bitMask_getLsbD, if_true, Bool.true_and, Bool.and_eq_true,
      beq_iff_eq, decide_eq_true_eq]
    exact div_mod_64_inj

theorem bitStep_clears (n p : Nat) (set : Bool) :
    (bitStep n set).clears (p / 64) (p % 64) = (!set && decide (n = p)) := by
  cases set
  · rw [Bool.eq_iff_iff]
    simp only [bitStep, AStep.clears, BitVec.getLsbD_not, bitMask_getLsbD,
      Nat.mod_lt _ (by decide : 0 < 64), Bool.false_eq_true, if_false, decide_true, Bool.true_and,
      Bool.not_not, Bool.not_false, Bool.and_eq_true, beq_iff_eq, decide_eq_true_eq]
    exact div_mod_64_inj
  · rfl

theorem bitStep_run_testBit (s : Words) (n : Nat) (set : Bool) (hn : n / 64 < s.length) (p : Nat) :
    testBit ((bitStep n set).run s).1 p = if p = n then set else testBit s p := by
  unfold testBit
  rw [AStep.run_bit _ _ _ _ (bitStep_isStore n set), bitStep_sets, bitStep_clears]
  by_cases h : n = p
  · subst h; cases set <;> simp [hn]
  · have : ¬ p = n := fun e => h e.symm
    simp [h, this]

/-! ## Programs that set or clear a list of pages -/

/-- the program that sets (`set = true`) or clears the pages `l`, in order:
    `set_bit`, `reset_bit` and `set_reset_addr_range` are all of this form -/
def pageSteps (l : List Nat) (set : Bool) : List AStep := l.map (bitStep · set)

theorem pageSteps_no_store (l : List Nat) (set : Bool) : ∀ a ∈ pageSteps l set, a.isStore = false :=
  List.forall_mem_map.2 fun n _ => bitStep_isStore n set

theorem pageSteps_inRange (m : Words) (l : List Nat) (set : Bool) (hl : ∀ n ∈ l, n / 64 < m.length) :
    (pageSteps l set).all (stepInRange m) = true := by
  refine List.all_eq_true.2 fun a ha => ?_
  obtain ⟨n, hn, rfl⟩ := List.mem_map.1 ha
  cases set <;> exact decide_eq_true (hl n hn)

theorem pageSteps_testBit (s : Words) (l : List Nat) (set : Bool) (hl : ∀ n ∈ l, n / 64 < s.length)
    (p : Nat) : testBit (runAll s (pageSteps l set)).1 p = if p ∈ l then set else testBit s p := by
  induction l generalizing s with
  | nil => simp [pageSteps, runAll_nil]
  | cons n l ih =>
    have hn := hl n (List.mem_cons_self ..)
    rw [pageSteps, List.map_cons, runAll_cons, ← pageSteps,
      ih _ (fun k hk => by rw [AStep.run_length]; exact hl k (List.mem_cons_of_mem _ hk)),
      bitStep_run_testBit s n set hn]
    by_cases h1 : p ∈ l <;> by_cases h2 : p = n <;> simp [h1, h2]

theorem mem_range'_sub (n hi p : Nat) : p ∈ List.range' n (hi - n) ↔ n ≤ p ∧ p < hi := by
  rw [List.mem_range'_1]; omega

/-- the loop `for n in n..=last { if n >= size { break }; … }` visits `n, n+1, …` below
    `hi = min (last + 1) size` -/
theorem rangeSteps_eq (size n last hi : Nat) (set : Bool) (hhi : ∀ k, (k ≤ last ∧ k < size) ↔ k < hi) :
    rangeSteps size n last set = pageSteps (List.range' n (hi - n)) set := by
  fun_induction rangeSteps size n last set with
  | case1 n h ih =>
    have hn := (hhi n).1 h
    have : hi - n = (hi - (n + 1)) + 1 := by rw [← Nat.sub_sub, Nat.sub_add_cancel (Nat.sub_pos_of_lt hn)]
    rw [ih, this, List.range'_succ]; rfl
  | case2 n h =>
    have : hi - n = 0 := Nat.sub_eq_zero_of_le (Nat.le_of_not_lt (mt (hhi n).2 h))
    rw [this]; rfl

/-- the pages `set_reset_addr_range(start, len, _)` visits -/
def ABitmap.rangePages (b : ABitmap) (start len : Nat) : List Nat :=
  if len = 0 then []
  else List.range' (start / b.page)
    (min (saturatingAdd start (len - 1) / b.page + 1) b.size - start / b.page)

theorem rangeProgram_eq (b : ABitmap) (start len : Nat) (set : Bool) :
    b.rangeProgram start len set = pageSteps (b.rangePages start len) set := by
  unfold rangeProgram ABitmap.rangePages
  split
  · rfl
  · exact rangeSteps_eq _ _ _ _ _ fun k => by rw [Nat.lt_min, Nat.lt_succ_iff]

theorem mem_rangePages (b : ABitmap) (start len p : Nat) :
    p ∈ b.rangePages start len ↔
      0 < len ∧ p < b.size ∧ start / b.page ≤ p ∧ p ≤ saturatingAdd start (len - 1) / b.page := by
  unfold ABitmap.rangePages
  split
  · next h => exact ⟨fun hp => absurd hp List.not_mem_nil, fun hp => absurd h (Nat.ne_of_gt hp.1)⟩
  · next h =>
    rw [mem_range'_sub, Nat.lt_min, Nat.lt_succ_iff]
    exact ⟨fun ⟨h1, h2, h3⟩ => ⟨Nat.pos_of_ne_zero h, h3, h1, h2⟩, fun ⟨_, h3, h1, h2⟩ => ⟨h1, h2, h3⟩⟩

theorem bitProgram_eq (b : ABitmap) (i : Nat) (set : Bool) :
    b.bitProgram i set = pageSteps (if i < b.size then [i] else []) set := by
  unfold bitProgram
  by_cases h : i < b.size
  · rw [if_neg (by omega), if_pos h]; rfl
  · rw [if_pos (by omega), if_neg h]; rfl

/-! ## Programs that visit every word once (`harvest`, `reset`, `clone`) -/

/-- A program `f 0, f 1, …` whose step `f w` replaces word `w` by `g` of it and returns `r` of
    it maps the words through `g` and returns them mapped through `r`.  (`pre`: the words
    already visited, for the induction.) -/
theorem runAll_range_map (f : Nat → AStep) (g r : BitVec 64 → BitVec 64)
    (hf : ∀ (s : Words) (w : Nat), (f w).run s = (s.set w (g (s.getD w 0)), r (s.getD w 0)))
    (pre s : Words) :
    runAll (pre ++ s) ((List.range s.length).map fun w => f (pre.length + w))
      = (pre ++ s.map g, s.map r) := by
  induction s generalizing pre with
  | nil => simp [runAll_nil]
  | cons x s ih =>
    have e : (pre ++ x :: s).getD pre.length 0 = x := by simp
    have := ih (pre ++ [g x])
    simp only [List.length_append, List.length_cons, List.length_nil, Nat.add_assoc,
      List.append_assoc, List.cons_append, List.nil_append, Nat.zero_add] at this
    rw [List.length_cons, List.range_succ_eq_map, List.map_cons, List.map_map, runAll_cons, hf,
      Nat.add_zero, e, List.set_append_right _ _ (Nat.le_refl _), Nat.sub_self, List.set_cons_zero]
    simp only [Function.comp_def, Nat.succ_eq_add_one, Nat.add_comm _ 1, List.map_cons, this]

theorem harvest_run (s : Words) :
    runAll s ((List.range s.length).map (fun w => AStep.fetchAnd w 0))
      = (List.replicate s.length 0, s) := by
  have := runAll_range_map (fun w => AStep.fetchAnd w 0) (· &&& 0) id (fun _ _ => rfl) [] s
  simpa [List.map_const'] using this

theorem reset_run (s : Words) :
    (runAll s ((List.range s.length).map (fun w => AStep.store w 0))).1
      = List.replicate s.length 0 := by
  have := runAll_range_map (fun w => AStep.store w 0) (fun _ => 0) (fun _ => 0) (fun _ _ => rfl) [] s
  simpa [List.map_const'] using congrArg Prod.fst this

theorem clone_run (s : Words) :
    runAll s ((List.range s.length).map AStep.load) = (s, s) := by
  have hf : ∀ (s : Words) (w : Nat), (AStep.load w).run s = (s.set w (id (s.getD w 0)), id (s.getD w 0)) := by
    intro s w
    refine Prod.ext (words_ext _ _ (List.length_set ..).symm fun j => ?_) rfl
    rw [getD_set_words]
    split
    · next h => rw [h.1]; rfl
    · rfl
  have := runAll_range_map AStep.load id id hf [] s
  simpa using this

/-! ## Arithmetic -/

theorem le_mul_divCeil (n p : Nat) (hp : 0 < p) : n ≤ p * divCeil n p := by
  unfold divCeil
  have := Nat.div_add_mod (n + p - 1) p
  have := Nat.mod_lt (n + p - 1) hp
  omega

theorem divCeil_mono (a b k : Nat) (h : a ≤ b) : divCeil a k ≤ divCeil b k := by
  unfold divCeil
  exact Nat.div_le_div_right (Nat.sub_le_sub_right (Nat.add_le_add_right h k) 1)

theorem pages_between (page lo hi p : Nat) (hp : 0 < page) (hlh : lo < hi) :
    (lo / page ≤ p ∧ p ≤ (hi - 1) / page) ↔ ∃ a, lo ≤ a ∧ a < hi ∧ a / page = p := by
  constructor
  · rintro ⟨h1, h2⟩
    have h2' : p * page ≤ hi - 1 := (Nat.le_div_iff_mul_le hp).1 h2
    have h1' : lo < (p + 1) * page := (Nat.div_lt_iff_lt_mul hp).1 (Nat.lt_succ_of_le h1)
    rw [Nat.succ_mul] at h1'
    -- the first address of page `p` that is `≥ lo`
    refine ⟨max lo (p * page), Nat.le_max_left .., Nat.max_lt.2 ⟨hlh, by omega⟩, ?_⟩
    exact Nat.div_eq_of_lt_le (Nat.le_max_right ..) (by rw [Nat.succ_mul]; omega)
  · rintro ⟨a, h1, h2, rfl⟩
    exact ⟨Nat.div_le_div_right h1, Nat.div_le_div_right (Nat.le_sub_one_of_lt h2)⟩

theorem wrappingAdd_wrappingAdd (base o1 off : Nat) :
    wrappingAdd (wrappingAdd base o1) off = wrappingAdd base ((o1 + off) % U) := by
  unfold wrappingAdd
  rw [Nat.mod_add_mod, Nat.add_mod_mod, Nat.add_assoc]

end VmMem
