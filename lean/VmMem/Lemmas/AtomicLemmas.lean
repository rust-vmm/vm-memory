/-
  VmMem.Lemmas.AtomicLemmas — facts about the atomic-replacement model that need no invariant:
  a step does one of five things to the state (`step_cases`), and what every step keeps every run
  keeps (`run_preserves`); `collect` touches only `freed`; a reference count is positive iff
  the cell or some owner designates the map; `published` only grows by appending; `freed`
  only grows; an owner that is not dropped keeps designating the same map.
  Defines `replaceEnabled`, `enabled1`, `enabledReplaces` (the vocabulary of `Props/C11`).
-/
import VmMem.Model.Atomic
namespace VmMem
namespace Atomic

@[simp] theorem collect_cur (s : St) : (collect s).cur = s.cur := rfl
@[simp] theorem collect_lock (s : St) : (collect s).lock = s.lock := rfl
@[simp] theorem collect_owners (s : St) : (collect s).owners = s.owners := rfl
@[simp] theorem collect_published (s : St) : (collect s).published = s.published := rfl
theorem refs_collect (s : St) (m : Nat) : refs (collect s) m = refs s m := rfl

theorem mem_collect_freed (s : St) (m : Nat) :
    m ∈ (collect s).freed ↔ m ∈ s.freed ∨ (m ∈ s.published ∧ refs s m = 0 ∧ m ∉ s.freed) := by
  simp [collect, List.mem_filter]

theorem refs_pos_iff (s : St) (m : Nat) : refs s m > 0 ↔ s.cur = m ∨ ∃ o, (o, m) ∈ s.owners := by
  unfold refs
  rw [gt_iff_lt, Nat.add_pos_iff_pos_or_pos, List.length_pos_iff_exists_mem, or_comm]
  refine or_congr ?_ ?_
  · by_cases hc : s.cur = m <;> simp [hc]
  · simp [List.mem_filter]

theorem refs_eq_zero_iff (s : St) (m : Nat) : refs s m = 0 ↔ s.cur ≠ m ∧ ∀ o, (o, m) ∉ s.owners := by
  rw [show refs s m = 0 ↔ ¬ refs s m > 0 by omega, refs_pos_iff, not_or, not_exists]

/-! ### `run` -/

@[simp] theorem run_nil (s : St) : run s [] = (s, []) := rfl
theorem run_cons (s : St) (a : Step) (rest : List Step) :
    run s (a :: rest) = ((run (step s a).1 rest).1, (step s a).2 :: (run (step s a).1 rest).2) := rfl
@[simp] theorem run_cons_fst (s : St) (a : Step) (rest : List Step) :
    (run s (a :: rest)).1 = (run (step s a).1 rest).1 := rfl
@[simp] theorem run_cons_snd (s : St) (a : Step) (rest : List Step) :
    (run s (a :: rest)).2 = (step s a).2 :: (run (step s a).1 rest).2 := rfl

theorem run_append_fst (s : St) (σ τ : List Step) : (run s (σ ++ τ)).1 = (run (run s σ).1 τ).1 := by
  induction σ generalizing s with
  | nil => rfl
  | cons a rest ih => simp [ih]

theorem run_preserves {P : St → Prop} (hstep : ∀ s a, P s → P (step s a).1) (s : St) (σ : List Step) (h : P s) :
    P (run s σ).1 := by
  induction σ generalizing s with
  | nil => exact h
  | cons a rest ih => exact ih _ (hstep s a h)

/-! ### one step -/

/-- is this `replace` enabled: the caller holds the lock and publishes a fresh id -/
def replaceEnabled (s : St) (t n : Nat) : Bool := s.lock == some t && !s.published.contains n

theorem replaceEnabled_iff (s : St) (t n : Nat) :
    replaceEnabled s t n = true ↔ s.lock = some t ∧ n ∉ s.published := by
  simp [replaceEnabled]

/-- A step does one of five things: nothing (it is disabled); make `o` an owner of a referenced map and return it;
    drop an owner and collect; set the lock; store a fresh id in the cell, release the lock and collect. -/
theorem step_cases {P : St × Option Nat → Prop} (s : St) (same : P (s, none))
    (own : ∀ o m, refs s m > 0 → P ({ s with owners := s.owners ++ [(o, m)] }, some m))
    (drop : ∀ o, P (collect { s with owners := s.owners.filter (·.1 != o) }, none))
    (lock : ∀ l, P ({ s with lock := l }, none))
    (store : ∀ n, n ∉ s.published →
      P (collect { s with cur := n, published := s.published ++ [n], lock := none }, none))
    (a : Step) : P (step s a) := by
  cases a with
  | snapshot o => exact own o s.cur ((refs_pos_iff s s.cur).2 (.inl rfl))
  | cloneOwner o src =>
    simp only [step]
    split
    · rename_i o' m hf
      exact own o m ((refs_pos_iff s m).2 (.inr ⟨o', List.mem_of_find?_eq_some hf⟩))
    · exact same
  | dropOwner o => exact drop o
  | replace t n =>
    simp only [step]
    split
    · rename_i hc
      exact store n ((replaceEnabled_iff s t n).1 hc).2
    · exact same
  | _ =>
    simp only [step]
    split
    · exact lock _
    · exact same

theorem step_freed_mono (s : St) (a : Step) (m : Nat) (h : m ∈ s.freed) : m ∈ (step s a).1.freed :=
  step_cases (P := fun x => m ∈ x.1.freed) s h (fun _ _ _ => h) (fun _ => (mem_collect_freed _ _).2 (.inl h))
    (fun _ => h) (fun _ _ => (mem_collect_freed _ _).2 (.inl h)) a

theorem run_freed_mono (s : St) (σ : List Step) (m : Nat) (h : m ∈ s.freed) : m ∈ (run s σ).1.freed :=
  run_preserves (fun s a => step_freed_mono s a m) s σ h

/-! ### the cell's history -/

/-- what one step appends to `published` -/
def enabled1 (s : St) : Step → List Nat
  | .replace t n => if replaceEnabled s t n then [n] else []
  | _ => []

/-- the ids of the enabled `replace` steps of `σ`, in order -/
def enabledReplaces (s : St) : List Step → List Nat
  | [] => []
  | a :: rest => enabled1 s a ++ enabledReplaces (step s a).1 rest

theorem step_published (s : St) (a : Step) : (step s a).1.published = s.published ++ enabled1 s a := by
  cases a with
  | snapshot o => simp [step, enabled1]
  | dropOwner o => simp [step, enabled1]
  | replace t n =>
    simp only [step, enabled1, replaceEnabled]
    split <;> simp_all
  | _ =>
    simp only [step, enabled1]
    split <;> simp

theorem run_published (s : St) (σ : List Step) :
    (run s σ).1.published = s.published ++ enabledReplaces s σ := by
  induction σ generalizing s with
  | nil => simp [enabledReplaces]
  | cons a rest ih =>
    rw [run_cons_fst, ih, step_published, enabledReplaces, List.append_assoc]

theorem run_published_prefix (s : St) (σ : List Step) : s.published <+: (run s σ).1.published :=
  ⟨enabledReplaces s σ, (run_published s σ).symm⟩

/-! ### owners -/

theorem mapOf_eq_some_iff (s : St) (o m : Nat) :
    mapOf s o = some m ↔ ∃ x, s.owners.find? (·.1 == o) = some x ∧ x.2 = m :=
  Option.map_eq_some_iff

theorem mapOf_mem (s : St) (o m : Nat) (h : mapOf s o = some m) : (o, m) ∈ s.owners := by
  obtain ⟨x, hx, rfl⟩ := (mapOf_eq_some_iff s o m).1 h
  have h2 : x.1 = o := by simpa using List.find?_some hx
  exact h2 ▸ (List.mem_of_find?_eq_some hx : (x.1, x.2) ∈ s.owners)

theorem find_filter_ne (l : List (Nat × Nat)) (o o' : Nat) (hne : o ≠ o') :
    (l.filter (·.1 != o')).find? (·.1 == o) = l.find? (·.1 == o) := by
  rw [List.find?_filter]
  congr 1
  funext a
  by_cases h : a.1 = o <;> simp [h, hne]

theorem find_append_some (l l' : List (Nat × Nat)) (p : Nat × Nat → Bool) (x : Nat × Nat)
    (h : l.find? p = some x) : (l ++ l').find? p = some x := by
  rw [List.find?_append, h]; rfl

/-- an owner that this step does not drop keeps designating the same map -/
theorem mapOf_step (s : St) (a : Step) (o m : Nat) (h : mapOf s o = some m) (hne : a ≠ .dropOwner o) :
    mapOf (step s a).1 o = some m := by
  obtain ⟨x, hx, e⟩ := (mapOf_eq_some_iff s o m).1 h
  cases a with
  | snapshot o' =>
    exact (mapOf_eq_some_iff _ o m).2 ⟨x, find_append_some _ _ _ _ hx, e⟩
  | cloneOwner o' src =>
    simp only [step]
    split
    · exact (mapOf_eq_some_iff _ o m).2 ⟨x, find_append_some _ _ _ _ hx, e⟩
    · exact h
  | dropOwner o' =>
    have hno : o ≠ o' := fun e' => hne (by rw [e'])
    refine (mapOf_eq_some_iff _ o m).2 ⟨x, ?_, e⟩
    simp only [step, collect_owners]
    rw [find_filter_ne _ _ _ hno]; exact hx
  | _ =>
    simp only [step]
    split <;> exact h

theorem mapOf_run (s : St) (σ : List Step) (o m : Nat) (h : mapOf s o = some m)
    (hne : ∀ a ∈ σ, a ≠ .dropOwner o) : mapOf (run s σ).1 o = some m := by
  induction σ generalizing s with
  | nil => exact h
  | cons a rest ih =>
    rw [run_cons_fst]
    exact ih _ (mapOf_step s a o m h (hne a (List.mem_cons_self ..)))
      (fun b hb => hne b (List.mem_cons_of_mem _ hb))

end Atomic
end VmMem
