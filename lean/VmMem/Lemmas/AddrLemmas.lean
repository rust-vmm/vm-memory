/-
  VmMem.Lemmas.AddrLemmas — number-theoretic and bit-level helper lemmas for C19.
-/
import VmMem.Model.Addr
namespace VmMem
namespace AddrLemmas

theorem and_not_low (x k n : Nat) (hx : x < 2 ^ n) (hk : k ≤ n) :
    x &&& (2 ^ n - 1 - (2 ^ k - 1)) = x / 2 ^ k * 2 ^ k := by
  have hkn : 2 ^ k ≤ 2 ^ n := Nat.pow_le_pow_right (by decide) hk
  apply Nat.eq_of_testBit_eq
  intro i
  rw [Nat.testBit_and, Nat.sub_sub, Nat.add_comm 1, Nat.testBit_two_pow_sub_succ (by omega), Nat.testBit_two_pow_sub_one,
    Nat.testBit_mul_two_pow, Nat.testBit_div_two_pow]
  by_cases hik : k ≤ i
  · rw [Nat.sub_add_cancel hik, decide_eq_false (Nat.not_lt.2 hik), decide_eq_true hik,
      Bool.not_false, Bool.and_true, Bool.true_and]
    by_cases hin : i < n
    · rw [decide_eq_true hin, Bool.and_true]
    · -- bits of `x` at or above `n` are clear
      rw [Nat.testBit_lt_two_pow
        (Nat.lt_of_lt_of_le hx (Nat.pow_le_pow_right (by decide) (Nat.le_of_not_lt hin)))]
      rfl
  · rw [decide_eq_true (Nat.lt_of_not_le hik), decide_eq_false hik, Bool.not_true, Bool.and_false,
      Bool.and_false, Bool.false_and]

theorem alignUp_least (a p : Nat) (hp : 0 < p) :
    p ∣ (a + (p - 1)) / p * p ∧ a ≤ (a + (p - 1)) / p * p ∧ (a + (p - 1)) / p * p ≤ a + (p - 1) ∧
      ∀ m, p ∣ m → a ≤ m → (a + (p - 1)) / p * p ≤ m := by
  have h1 := Nat.div_add_mod (a + (p - 1)) p
  have h2 := Nat.mod_lt (a + (p - 1)) hp
  have hc : p * ((a + (p - 1)) / p) = (a + (p - 1)) / p * p := Nat.mul_comm _ _
  refine ⟨Nat.dvd_mul_left _ _, by omega, by omega, fun m hm ham => Nat.le_of_not_lt fun hlt => ?_⟩
  -- two multiples of `p` differ by at least `p`
  have := Nat.le_of_dvd (by omega) (Nat.dvd_sub (Nat.dvd_mul_left p ((a + (p - 1)) / p)) hm)
  omega

theorem multiple_le_top (k n m : Nat) (hk : k ≤ n) (hd : 2 ^ k ∣ m) (hm : m < 2 ^ n) :
    m + 2 ^ k ≤ 2 ^ n := by
  have := Nat.le_of_dvd (by omega) (Nat.dvd_sub (Nat.pow_dvd_pow 2 hk) hd)
  omega

end AddrLemmas
end VmMem
