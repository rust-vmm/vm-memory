/-
  VmMem.Lemmas.VolatileLemmas — closed forms and inversion lemmas for the bounds
  arithmetic of `VmMem.Model.Volatile`.

  Every bounds test of a slice has one shape, `checked a b v`: `Overflow` unless `a`, else
  `OutOfBounds` unless `b`, else the value `v`.  `subslice`, `offset`, `split_at`, `get_ref` and
  `get_array_ref` (with the `TooBig` test around it) have an equation `f_checked : f … = checked … v`;
  their `f_ok` (inversion) and `f_ne_panic` are instances of the `checked_*` lemmas, and `f_of`
  (`subslice`, `offset`, `alignedRef`) serves callers that know the request fits.  The aligned
  references (`alignedRef_eq`) and the array derivations (`arrToSlice_eq`, `refAt_eq`, which panic)
  have nested-`if` closed forms of their own.
-/
import VmMem.Model.Volatile
namespace VmMem
namespace VolatileLemmas

theorem U_eq : U = 18446744073709551616 := by decide
theorem ISIZE_MAX_eq : ISIZE_MAX = 9223372036854775807 := by decide
theorem ISIZE_MAX_lt_U : ISIZE_MAX < U := by decide

/-! ### machine primitives -/

theorem checkedAdd_eq (a b : Nat) :
    checkedAdd a b = if a + b < U then some (a + b) else none := rfl

theorem checkedSub_eq (a b : Nat) :
    checkedSub a b = if b ≤ a then some (a - b) else none := rfl

theorem mulP_eq (a b : Nat) : mulP a b = if a * b < U then .ok (a * b) else .panic := rfl

theorem mulP_ok {a b r : Nat} (h : mulP a b = .ok r) : a * b < U ∧ r = a * b := by
  unfold mulP at h
  split at h
  · cases h; exact ⟨by assumption, rfl⟩
  · cases h

theorem mulP_of_lt {a b : Nat} (h : a * b < U) : mulP a b = .ok (a * b) := by
  simp [mulP, h]

theorem mulP_panic_iff (a b : Nat) : mulP a b = .panic ↔ U ≤ a * b := by
  unfold mulP
  by_cases h : a * b < U <;> simp [h] <;> omega

/-! ### the shape of every bounds test -/

section checked
variable {α β : Type} {a b : Prop} [Decidable a] [Decidable b] {v y : α}

/-- `Overflow` unless `a`, else `OutOfBounds` unless `b`, else `v` -/
def checked (a b : Prop) [Decidable a] [Decidable b] (v : α) : Res α :=
  if a then if b then .ok v else .err .outOfBounds else .err .overflow

theorem checked_ok (ha : a) (hb : b) : checked a b v = .ok v := by
  rw [checked, if_pos ha, if_pos hb]

theorem checked_overflow (ha : ¬ a) : checked a b v = .err .overflow := if_neg ha

theorem checked_oob (ha : a) (hb : ¬ b) : checked a b v = .err .outOfBounds := by
  rw [checked, if_pos ha, if_neg hb]

theorem checked_eq_ok : checked a b v = .ok y ↔ (a ∧ b) ∧ v = y := by
  unfold checked
  split
  · split <;> simp [*]
  · simp [*]

theorem checked_ne_panic : checked a b v ≠ .panic := by
  unfold checked
  split
  · split <;> nofun
  · nofun

theorem checked_isOk : (∃ y, checked a b v = .ok y) ↔ a ∧ b := by
  simp only [checked_eq_ok, exists_and_left, exists_eq', and_true]

theorem checked_map (g : α → β) :
    (checked a b v >>= fun x => pure (g x)) = checked a b (g v) := by
  unfold checked
  split
  · split <;> rfl
  · rfl

end checked

/-! ### `compute_offset` / `compute_end_offset` -/

theorem computeOffset_eq (b o : Nat) :
    computeOffset b o = if b + o < U then .ok (b + o) else .err .overflow := by
  by_cases h : b + o < U <;> simp [computeOffset, checkedAdd, h]

theorem computeOffset_ok {b o m : Nat} (h : computeOffset b o = .ok m) :
    b + o < U ∧ m = b + o := by
  rw [computeOffset_eq] at h
  split at h
  · cases h; exact ⟨by assumption, rfl⟩
  · cases h

theorem computeEndOffset_checked (len b o : Nat) :
    computeEndOffset len b o = checked (b + o < U) (b + o ≤ len) (b + o) := by
  unfold computeEndOffset checked
  rw [computeOffset_eq]
  by_cases h1 : b + o < U
  · by_cases h2 : b + o ≤ len
    · simp [h1, h2, Nat.not_lt.2 h2]
    · simp [h1, h2, Nat.lt_of_not_le h2]
  · simp [h1]

theorem computeEndOffset_ok {len b o e : Nat} (h : computeEndOffset len b o = .ok e) :
    b + o < U ∧ b + o ≤ len ∧ e = b + o := by
  obtain ⟨⟨h1, h2⟩, rfl⟩ := checked_eq_ok.1 (computeEndOffset_checked len b o ▸ h)
  exact ⟨h1, h2, rfl⟩

/-! ### `VolatileSlice` derivations -/

theorem subslice_checked (s : VSlice) (off cnt : Nat) :
    s.subslice off cnt = checked (off + cnt < U) (off + cnt ≤ s.size)
      { addr := s.addr + off, size := cnt, bmBase := sliceAt s.bmBase off } := by
  unfold VSlice.subslice
  rw [computeEndOffset_checked, checked_map]

theorem subslice_ok {s s' : VSlice} {off cnt : Nat} (h : s.subslice off cnt = .ok s') :
    off + cnt < U ∧ off + cnt ≤ s.size ∧
      s'.addr = s.addr + off ∧ s'.size = cnt ∧ s'.bmBase = sliceAt s.bmBase off := by
  obtain ⟨⟨h1, h2⟩, rfl⟩ := checked_eq_ok.1 (subslice_checked s off cnt ▸ h)
  exact ⟨h1, h2, rfl, rfl, rfl⟩

theorem subslice_ne_panic (s : VSlice) (off cnt : Nat) : s.subslice off cnt ≠ .panic :=
  subslice_checked s off cnt ▸ checked_ne_panic

theorem subslice_of {s : VSlice} {off cnt : Nat} (h1 : off + cnt < U) (h2 : off + cnt ≤ s.size) :
    s.subslice off cnt = .ok { addr := s.addr + off, size := cnt, bmBase := sliceAt s.bmBase off } :=
  subslice_checked s off cnt ▸ checked_ok h1 h2

theorem offset_checked (s : VSlice) (cnt : Nat) :
    s.offset cnt = checked (s.addr + cnt < U) (cnt ≤ s.size)
      { addr := s.addr + cnt, size := s.size - cnt, bmBase := sliceAt s.bmBase cnt } := by
  unfold VSlice.offset checkedAdd checkedSub checked
  by_cases h1 : s.addr + cnt < U
  · by_cases h2 : cnt ≤ s.size <;> simp [h1, h2]
  · simp [h1]

theorem offset_ok {s s' : VSlice} {cnt : Nat} (h : s.offset cnt = .ok s') :
    s.addr + cnt < U ∧ cnt ≤ s.size ∧
      s'.addr = s.addr + cnt ∧ s'.size = s.size - cnt ∧ s'.bmBase = sliceAt s.bmBase cnt := by
  obtain ⟨⟨h1, h2⟩, rfl⟩ := checked_eq_ok.1 (offset_checked s cnt ▸ h)
  exact ⟨h1, h2, rfl, rfl, rfl⟩

theorem offset_ne_panic (s : VSlice) (cnt : Nat) : s.offset cnt ≠ .panic :=
  offset_checked s cnt ▸ checked_ne_panic

theorem offset_of {s : VSlice} {cnt : Nat} (h1 : s.addr + cnt < U) (h2 : cnt ≤ s.size) :
    s.offset cnt = .ok { addr := s.addr + cnt, size := s.size - cnt, bmBase := sliceAt s.bmBase cnt } :=
  offset_checked s cnt ▸ checked_ok h1 h2

/-- `VolatileSlice::offset(0)` of a slice whose address is a `usize`: the whole slice -/
theorem offset_zero (s : VSlice) (hU : s.addr < U) :
    s.offset 0 = .ok { addr := s.addr, size := s.size, bmBase := sliceAt s.bmBase 0 } :=
  offset_of (cnt := 0) hU (Nat.zero_le _)

theorem splitAt_checked (s : VSlice) (mid : Nat) :
    s.splitAt mid = checked (s.addr + mid < U) (mid ≤ s.size)
      ({ addr := s.addr, size := mid, bmBase := s.bmBase },
       { addr := s.addr + mid, size := s.size - mid, bmBase := sliceAt s.bmBase mid }) := by
  unfold VSlice.splitAt
  rw [offset_checked, checked_map]

theorem splitAt_ok {s l r : VSlice} {mid : Nat} (h : s.splitAt mid = .ok (l, r)) :
    s.addr + mid < U ∧ mid ≤ s.size ∧
      l.addr = s.addr ∧ l.size = mid ∧ l.bmBase = s.bmBase ∧
      r.addr = s.addr + mid ∧ r.size = s.size - mid ∧ r.bmBase = sliceAt s.bmBase mid := by
  obtain ⟨⟨h1, h2⟩, hv⟩ := checked_eq_ok.1 (splitAt_checked s mid ▸ h)
  cases hv
  exact ⟨h1, h2, rfl, rfl, rfl, rfl, rfl, rfl⟩

theorem splitAt_ne_panic (s : VSlice) (mid : Nat) : s.splitAt mid ≠ .panic :=
  splitAt_checked s mid ▸ checked_ne_panic

theorem checkAlignment_eq (s : VSlice) (al : Nat) :
    s.checkAlignment al = if s.addr % al = 0 then .ok () else .err .misaligned := by
  unfold VSlice.checkAlignment
  by_cases h : s.addr % al = 0 <;> simp [h]

theorem getRef_checked (s : VSlice) (off : Nat) (t : Ty) :
    s.getRef off t = checked (off + t.size < U) (off + t.size ≤ s.size)
      { addr := s.addr + off, bmBase := sliceAt s.bmBase off, ty := t } := by
  unfold VSlice.getRef
  rw [subslice_checked, checked_map]

theorem getRef_ok {s : VSlice} {r : VRef} {off : Nat} {t : Ty} (h : s.getRef off t = .ok r) :
    off + t.size < U ∧ off + t.size ≤ s.size ∧
      r.addr = s.addr + off ∧ r.ty = t ∧ r.bmBase = sliceAt s.bmBase off := by
  obtain ⟨⟨h1, h2⟩, rfl⟩ := checked_eq_ok.1 (getRef_checked s off t ▸ h)
  exact ⟨h1, h2, rfl, rfl, rfl⟩

theorem getRef_ne_panic (s : VSlice) (off : Nat) (t : Ty) : s.getRef off t ≠ .panic :=
  getRef_checked s off t ▸ checked_ne_panic

theorem getArrayRef_checked (s : VSlice) (off n : Nat) (t : Ty) :
    s.getArrayRef off n t =
      if n ≤ ISIZE_MAX ∧ n * t.size ≤ ISIZE_MAX then
        checked (off + n * t.size < U) (off + n * t.size ≤ s.size)
          { addr := s.addr + off, nelem := n, bmBase := sliceAt s.bmBase off, ty := t }
      else .err .tooBig := by
  unfold VSlice.getArrayRef
  rw [subslice_checked, checked_map]
  by_cases h0 : n ≤ ISIZE_MAX ∧ n * t.size ≤ ISIZE_MAX
  · rw [if_neg (by omega), if_pos h0]
  · rw [if_pos (by omega), if_neg h0]

theorem getArrayRef_ok {s : VSlice} {a : VArr} {off n : Nat} {t : Ty}
    (h : s.getArrayRef off n t = .ok a) :
    n ≤ ISIZE_MAX ∧ n * t.size ≤ ISIZE_MAX ∧ off + n * t.size < U ∧ off + n * t.size ≤ s.size ∧
      a.addr = s.addr + off ∧ a.nelem = n ∧ a.ty = t ∧ a.bmBase = sliceAt s.bmBase off := by
  rw [getArrayRef_checked] at h
  split at h
  · rename_i h0
    obtain ⟨⟨h1, h2⟩, rfl⟩ := checked_eq_ok.1 h
    exact ⟨h0.1, h0.2, h1, h2, rfl, rfl, rfl, rfl⟩
  · cases h

theorem getArrayRef_ne_panic (s : VSlice) (off n : Nat) (t : Ty) :
    s.getArrayRef off n t ≠ .panic := by
  rw [getArrayRef_checked]
  split
  · exact checked_ne_panic
  · nofun

/-- the bounds test first, the alignment test on what passed it -/
theorem alignedRef_eq (s : VSlice) (off : Nat) (t : Ty) :
    s.alignedRef off t =
      if off + t.size < U then
        (if off + t.size ≤ s.size then
          (if (s.addr + off) % t.align = 0 then .ok (s.addr + off) else .err .misaligned)
         else .err .outOfBounds)
      else .err .overflow := by
  unfold VSlice.alignedRef
  rw [subslice_checked]
  unfold checked
  split
  · split
    · rw [Res.bind_ok, checkAlignment_eq]
      split <;> rfl
    · rfl
  · rfl

theorem alignedRef_ok {s : VSlice} {off p : Nat} {t : Ty} (h : s.alignedRef off t = .ok p) :
    off + t.size < U ∧ off + t.size ≤ s.size ∧ (s.addr + off) % t.align = 0 ∧ p = s.addr + off := by
  rw [alignedRef_eq] at h
  split at h
  · split at h
    · split at h
      · cases h; exact ⟨by assumption, by assumption, by assumption, rfl⟩
      · cases h
    · cases h
  · cases h

theorem alignedRef_ne_panic (s : VSlice) (off : Nat) (t : Ty) : s.alignedRef off t ≠ .panic := by
  rw [alignedRef_eq]
  split
  · split
    · split <;> nofun
    · nofun
  · nofun

theorem alignedRef_of {s : VSlice} {off : Nat} {t : Ty} (hs : s.size < U)
    (hfit : off + t.size ≤ s.size) (hal : (s.addr + off) % t.align = 0) :
    s.alignedRef off t = .ok (s.addr + off) := by
  rw [alignedRef_eq, if_pos (Nat.lt_of_le_of_lt hfit hs), if_pos hfit, if_pos hal]

/-! ### `VolatileArrayRef` derivations -/

theorem arrToSlice_eq (a : VArr) :
    a.toSlice =
      if a.nelem * a.ty.size < U then
        .ok { addr := a.addr, size := a.nelem * a.ty.size, bmBase := a.bmBase }
      else .panic := by
  unfold VArr.toSlice mulP
  split <;> rfl

theorem arrToSlice_ok {a : VArr} {s : VSlice} (h : a.toSlice = .ok s) :
    a.nelem * a.ty.size < U ∧ s.addr = a.addr ∧ s.size = a.nelem * a.ty.size ∧
      s.bmBase = a.bmBase := by
  rw [arrToSlice_eq] at h
  split at h
  · cases h; exact ⟨by assumption, rfl, rfl, rfl⟩
  · cases h

theorem refAt_eq (a : VArr) (i : Nat) :
    a.refAt i =
      if i < a.nelem then
        (if a.ty.size * i < U then
          .ok { addr := a.addr + a.ty.size * i, bmBase := sliceAt a.bmBase (a.ty.size * i),
                ty := a.ty }
         else .panic)
      else .panic := by
  unfold VArr.refAt mulP
  split
  · split <;> rfl
  · rfl

theorem refAt_ok {a : VArr} {r : VRef} {i : Nat} (h : a.refAt i = .ok r) :
    i < a.nelem ∧ a.ty.size * i < U ∧ r.addr = a.addr + a.ty.size * i ∧ r.ty = a.ty ∧
      r.bmBase = sliceAt a.bmBase (a.ty.size * i) := by
  rw [refAt_eq] at h
  split at h
  · split at h
    · cases h; exact ⟨by assumption, by assumption, rfl, rfl, rfl⟩
    · cases h
  · cases h

/-- the `i`-th element of an `n`-element array ends inside the array -/
theorem elem_end_le {sz i n : Nat} (h : i < n) : sz * i + sz ≤ n * sz := by
  have h1 : sz * (i + 1) ≤ sz * n := Nat.mul_le_mul_left sz h
  rw [Nat.mul_add, Nat.mul_one, Nat.mul_comm sz n] at h1
  exact h1

theorem elem_ofs_le {sz i n : Nat} (h : i < n) : sz * i ≤ n * sz :=
  Nat.le_trans (Nat.le_add_right _ _) (elem_end_le h)

end VolatileLemmas
end VmMem
