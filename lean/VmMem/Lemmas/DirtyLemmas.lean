/-
  VmMem.Lemmas.DirtyLemmas — dirty-page tracking of writes through volatile accessors:
  shared machinery of `VmMem.Props.C05` (soundness: no tracked write leaves its pages
  clean), `VmMem.Props.C05h` (the same with harvests between store and mark) and
  `VmMem.Props.C16` (precision: marks are confined to what was written).

  Every mutating operation of the model is, after its checks, one `Mem.writeAt` at byte
  `off` of an accessor followed by one `Mem.mark` of `[off, off + n)` through that
  accessor's bitmap slice.  `Tracks.store_mark` (§4) says what that pair does when the
  accessor is tracked.  `VmMem.Props.C05` §3 unfolds each operation once, down to that pair,
  and collects the operations over the step function `applyW` (§6 here).  What C05, C05h and
  C16 say about an operation they read off the resulting `Effect` (§3).

  The raw layer (`writeAt_frame`, `mark_bytes`, windows `Win`, …) is `VmMem.Lemmas.DataLemmas`,
  the closed form of one stream call is `Reader.readVolatile_eq_xfer` of `VmMem.Lemmas.IoLemmas`.
-/
import VmMem.Lemmas.DataLemmas
import VmMem.Lemmas.IoLemmas
import VmMem.Props.C01
import VmMem.Props.C04
namespace VmMem
open VolatileLemmas

/-! ## §0 definitions -/

namespace Dirty
open C01

/-- the container `m` is tracked by bitmap `b`, and sits at offset `B0` of the tracked area.
    `size` is stated as `≤`: the tracked area may extend beyond this container, e.g. when
    several containers share one bitmap. -/
structure Setting (m : Mem) (b : ABitmap) (B0 : Nat) : Prop where
  bm : m.bm = some b
  inv : C09.Inv b
  size : B0 + m.bytes.length ≤ b.byteSize
  fitU : B0 + m.bytes.length < U
  baseU : m.base + m.bytes.length ≤ U

theorem Setting.congr {m m' : Mem} {b b' : ABitmap} {B0 : Nat} (hs : Setting m b B0)
    (hbm : m'.bm = some b') (hinv : C09.Inv b') (hbs : b'.byteSize = b.byteSize)
    (hb : m'.base = m.base) (hl : m'.bytes.length = m.bytes.length) : Setting m' b' B0 where
  bm := hbm
  inv := hinv
  size := by rw [hbs, hl]; exact hs.size
  fitU := by rw [hl]; exact hs.fitU
  baseU := by rw [hb, hl]; exact hs.baseU

theorem Setting.writeAt {m m1 : Mem} {b : ABitmap} {B0 x : Nat} {d : List UInt8}
    (hs : Setting m b B0) (h : m.writeAt x d = .ok m1) : Setting m1 b B0 :=
  hs.congr ((DataLemmas.writeAt_base_bm h).2.trans hs.bm) hs.inv rfl (DataLemmas.writeAt_base_bm h).1
    (DataLemmas.writeAt_length h)

theorem Setting.bmInv {m : Mem} {b : ABitmap} {B0 : Nat} (hs : Setting m b B0) :
    DataLemmas.BmInv m := by
  intro b' hb'
  rw [hs.bm] at hb'
  cases hb'
  exact hs.inv

theorem Setting.memWF {m : Mem} {b : ABitmap} {B0 : Nat} (hs : Setting m b B0) : C04.MemWF m :=
  ⟨hs.baseU, Nat.lt_of_le_of_lt (Nat.le_add_left _ _) hs.fitU⟩

/-- byte `i` of the container lives on a page that is marked dirty -/
def dirty (m : Mem) (B0 i : Nat) : Bool :=
  match m.bm with
  | some b => b.bit ((B0 + i) / b.page)
  | none => false

theorem dirty_of_bm {m : Mem} {b : ABitmap} (h : m.bm = some b) (B0 i : Nat) :
    dirty m B0 i = b.bit ((B0 + i) / b.page) := by
  simp only [dirty, h]

/-- the key invariant of accessors: the bitmap offset tracks the address, and the
    accessor designates bytes of the container only -/
def Tracks (m : Mem) (B0 : Nat) (a : Acc) : Prop :=
  a.bmBase = (B0 + (a.lo - m.base)) % U ∧ m.base ≤ a.lo ∧ a.hi ≤ m.base + m.bytes.length

theorem Tracks.congr {m m' : Mem} {B0 : Nat} {a : C01.Acc} (h : Tracks m B0 a)
    (hb : m'.base = m.base) (hl : m'.bytes.length = m.bytes.length) : Tracks m' B0 a := by
  unfold Tracks at *
  rw [hb, hl]; exact h

theorem Tracks.win {m : Mem} {B0 : Nat} {a : C01.Acc} (h : Tracks m B0 a) :
    DataLemmas.Win m a.lo a.bytes := h.2

/-- the root accessor of a container placed at offset `B0` of the tracked area -/
def rootAt (m : Mem) (B0 : Nat) : VSlice := { addr := m.base, size := m.bytes.length, bmBase := B0 }

theorem rootAt_zero (m : Mem) : rootAt m 0 = m.root := rfl

/-! ## §1 the bits a mark adds -/

/-- the bit-level effect of marking `n` bytes at offset `w` of the container -/
def markedBits (b : ABitmap) (B0 w n : Nat) (p : Nat) : Bool :=
  b.bit p || decide (0 < n ∧ (B0 + w) / b.page ≤ p ∧ p ≤ (B0 + w + n - 1) / b.page)

theorem markedBits_zero (b : ABitmap) (B0 w p : Nat) : markedBits b B0 w 0 p = b.bit p := by
  simp [markedBits]

theorem markedBits_of_mem (b : ABitmap) {B0 w n x : Nat} (h1 : B0 + w ≤ x) (h2 : x < B0 + w + n) :
    markedBits b B0 w n (x / b.page) = true := by
  unfold markedBits
  rw [decide_eq_true ⟨Nat.lt_add_right_iff_pos.1 (Nat.lt_of_le_of_lt h1 h2), Nat.div_le_div_right h1,
    Nat.div_le_div_right (Nat.le_sub_one_of_lt h2)⟩, Bool.or_true]

/-! ## §2 the bitmap offset tracks the address -/

/-- a derivation step keeps the tracking (it is here that a `slice_at` composition which dropped the parent's base
    offset would fail) -/
theorem Tracks.shift {m : Mem} {B0 : Nat} {a a' : C01.Acc} (ht : Tracks m B0 a)
    (h : C01.Shift a a') : Tracks m B0 a' := by
  refine ⟨?_, Nat.le_trans ht.2.1 h.inside.1, Nat.le_trans h.inside.2 ht.2.2⟩
  obtain ⟨δ, hlo, -, hbm⟩ := h
  rcases hbm with hbm | ⟨rfl, hbm⟩
  · rw [hbm, hlo, ht.1]
    unfold sliceAt wrappingAdd
    rw [Nat.mod_add_mod, Nat.add_assoc, Nat.sub_add_comm ht.2.1]
  · rw [hbm, hlo]
    exact ht.1

/-! ## §3 the common shape of every mutating operation -/

/-- `m'` results from `m` by storing bytes inside the window `[w, w + n)` of the
    container and marking exactly the pages of `[B0 + w, B0 + w + n)`.  (`b` is the bitmap
    the mark ran on; nothing is said about `m.bm`.) -/
structure Effect (m : Mem) (b : ABitmap) (B0 : Nat) (m' : Mem) (b' : ABitmap) (w n : Nat) : Prop where
  base : m'.base = m.base
  len : m'.bytes.length = m.bytes.length
  outside : ∀ i, (i < w ∨ w + n ≤ i) → m'.bytes[i]? = m.bytes[i]?
  bm : m'.bm = some b'
  inv : C09.Inv b'
  page : b'.page = b.page
  byteSize : b'.byteSize = b.byteSize
  bits : ∀ p, b'.bit p = markedBits b B0 w n p

theorem Effect.refl {m : Mem} {b : ABitmap} {B0 : Nat} (hs : Setting m b B0) (w : Nat) :
    Effect m b B0 m b w 0 where
  base := rfl
  len := rfl
  outside := fun _ _ => rfl
  bm := hs.bm
  inv := hs.inv
  page := rfl
  byteSize := rfl
  bits := fun p => (markedBits_zero b B0 w p).symm

theorem Effect.zero_move {m m' : Mem} {b b' : ABitmap} {B0 w : Nat}
    (he : Effect m b B0 m' b' w 0) (w' : Nat) : Effect m b B0 m' b' w' 0 :=
  { he with
    outside := fun i _ => he.outside i (by omega)
    bits := fun p => by rw [he.bits p, markedBits_zero, markedBits_zero] }

theorem Effect.tracks {m m' : Mem} {b b' : ABitmap} {B0 w n : Nat}
    (he : Effect m b B0 m' b' w n) {a : Acc} (ht : Tracks m B0 a) : Tracks m' B0 a :=
  ht.congr he.base he.len

section effect
variable {m m' : Mem} {b b' : ABitmap} {B0 w n : Nat}

theorem Effect.setting (hs : Setting m b B0) (he : Effect m b B0 m' b' w n) : Setting m' b' B0 :=
  hs.congr he.bm he.inv he.byteSize he.base he.len

theorem Effect.mono (he : Effect m b B0 m' b' w n) (p : Nat) (h : b.bit p = true) : b'.bit p = true := by
  rw [he.bits p, markedBits, h]
  rfl

theorem Effect.window_dirty (he : Effect m b B0 m' b' w n) (i : Nat) (hlo : w ≤ i) (hhi : i < w + n) :
    dirty m' B0 i = true := by
  rw [dirty_of_bm he.bm, he.bits, he.page]
  exact markedBits_of_mem b (Nat.add_le_add_left hlo _) (Nat.add_assoc .. ▸ Nat.add_lt_add_left hhi _)

/-- a byte that differs lies in the window, and the window's pages are dirty -/
theorem Effect.sound (he : Effect m b B0 m' b' w n) (i : Nat) (hne : m'.bytes[i]? ≠ m.bytes[i]?) :
    dirty m' B0 i = true := by
  have hin : w ≤ i ∧ i < w + n :=
    Classical.byContradiction fun hc => hne (he.outside i (by omega))
  exact he.window_dirty i hin.1 hin.2

theorem Effect.dirty_mono (hs : Setting m b B0) (he : Effect m b B0 m' b' w n) (i : Nat)
    (h : dirty m B0 i = true) : dirty m' B0 i = true := by
  rw [dirty_of_bm hs.bm] at h
  rw [dirty_of_bm he.bm, he.page]
  exact he.mono _ h

end effect

/-! ## §4 marking, and storing then marking, through a tracked accessor -/

/-- `Mem.mark` through a `BitmapSlice` whose base offset plus `off` is the offset of
    container byte `w` in the tracked area: exactly the pages of `[B0+w, B0+w+n)` are
    added; `saturating_add` does not saturate and no page is cut off by `size`. -/
theorem mark_effect {m : Mem} {b : ABitmap} {B0 : Nat} (hs : Setting m b B0)
    {bmBase off w n : Nat} {m' : Mem} (hbm : wrappingAdd bmBase off = B0 + w)
    (hfit : w + n ≤ m.bytes.length) (h : m.mark bmBase off n = .ok m') :
    m'.bytes = m.bytes ∧ ∃ b', Effect m b B0 m' b' w n := by
  unfold Mem.mark at h
  rw [hs.bm] at h
  obtain ⟨b', hb', h⟩ := (Res.bind_eq_ok _ _ _).1 h
  cases h
  unfold markVia ABitmap.markDirty at hb'
  rw [hbm] at hb'
  obtain ⟨hi, -, hbs, hpg, hbits⟩ := C09.mark_spec b hs.inv (B0 + w) n true b' hb'
  refine ⟨rfl, b', rfl, rfl, fun _ _ => rfl, rfl, hi, hpg, hbs, ?_⟩
  intro p
  rw [hbits p]
  unfold markedBits
  have hend : B0 + w + n ≤ B0 + m.bytes.length := Nat.add_assoc .. ▸ Nat.add_le_add_left hfit B0
  have hsat : 0 < n → saturatingAdd (B0 + w) (n - 1) = B0 + w + n - 1 := fun hn =>
    (if_pos (Nat.lt_of_le_of_lt (Nat.le_trans (Nat.add_le_add_left (Nat.sub_le n 1) _) hend)
      hs.fitU)).trans (Nat.add_sub_assoc hn _).symm
  by_cases hc : 0 < n ∧ (B0 + w) / b.page ≤ p ∧ p ≤ (B0 + w + n - 1) / b.page
  · -- no page of the window is cut off by `size`
    have hlt : p < b.size := by
      rw [hs.inv.size_eq]
      refine Nat.lt_of_le_of_lt hc.2.2 ((Nat.div_lt_iff_lt_mul hs.inv.page_pos).2 ?_)
      calc B0 + w + n - 1
        _ < b.byteSize := Nat.sub_one_lt_of_le (Nat.lt_of_lt_of_le hc.1 (Nat.le_add_left ..))
          (Nat.le_trans hend hs.size)
        _ ≤ divCeil b.byteSize b.page * b.page :=
          Nat.mul_comm .. ▸ le_mul_divCeil _ _ hs.inv.page_pos
    rw [if_pos ⟨hc.1, hlt, hc.2.1, by rw [hsat hc.1]; exact hc.2.2⟩, decide_eq_true hc, Bool.or_true]
  · rw [if_neg (fun hh => hc ⟨hh.1, hh.2.2.1, by rw [← hsat hh.1]; exact hh.2.2.2⟩),
      decide_eq_false hc, Bool.or_false]

section store
variable {m : Mem} {B0 : Nat} {a : C01.Acc}

theorem Tracks.mark {b : ABitmap} (ht : Tracks m B0 a) (hs : Setting m b B0) {off n : Nat}
    (hfit : a.lo - m.base + off + n ≤ m.bytes.length) {m' : Mem}
    (h : m.mark a.bmBase off n = .ok m') :
    m'.bytes = m.bytes ∧ ∃ b', Effect m b B0 m' b' (a.lo - m.base + off) n := by
  refine mark_effect hs ?_ hfit h
  unfold wrappingAdd
  rw [ht.1, Nat.mod_add_mod, Nat.add_assoc, Nat.mod_eq_of_lt (Nat.lt_of_le_of_lt
    (Nat.add_le_add_left (Nat.le_of_add_right_le hfit) B0) hs.fitU)]

/-- The one fact behind C05, C05h and C16.  `writeAt` of `d` at byte `off` of a tracked
    accessor `a`; then, in a state `mk` that has the bytes just written and a bitmap `bk` of
    the same geometry (the state after the store, or that state after any number of
    harvests), `mark_dirty(off, n)` through the bitmap slice of `a`.  Relative to the
    container BEFORE the store and the bitmap the mark ran on, this is an `Effect` with
    window `[o + off, o + off + n)`, `o = a.lo - m.base`. -/
theorem Tracks.store_mark {m1 mk m' : Mem} {bk : ABitmap} (ht : Tracks m B0 a)
    {x off n : Nat} {d : List UInt8} (hx : x = a.lo + off) (hfit : off + n ≤ a.bytes)
    (hd : d.length ≤ n) (h1 : m.writeAt x d = .ok m1) (hk : Setting mk bk B0)
    (hkb : mk.bytes = m1.bytes) (hkbase : mk.base = m1.base)
    (h2 : mk.mark a.bmBase off n = .ok m') :
    ∃ b', Effect m bk B0 m' b' (a.lo - m.base + off) n := by
  have hl : mk.bytes.length = m.bytes.length := by rw [hkb]; exact DataLemmas.writeAt_length h1
  have hb1 : mk.base = m.base := hkbase.trans (DataLemmas.writeAt_base_bm h1).1
  have htk := ht.congr hb1 hl
  have hw := (htk.win.sub hfit).end_le
  rw [htk.win.ofs] at hw
  obtain ⟨hb, b', he⟩ := htk.mark hk hw h2
  rw [hb1] at he
  refine ⟨b', he.base.trans hb1, he.len.trans hl, ?_, he.bm, he.inv, he.page, he.byteSize, he.bits⟩
  intro i hi
  rw [hb, hkb]
  refine DataLemmas.writeAt_frame h1 i ?_
  rw [hx, ht.win.ofs]
  exact hi.imp_right (Nat.le_trans (Nat.add_le_add_left hd _))

theorem Tracks.store_mark_seq {b : ABitmap} {m1 m' : Mem} (ht : Tracks m B0 a)
    (hs : Setting m b B0) {x off n : Nat} {d : List UInt8} (hx : x = a.lo + off)
    (hfit : off + n ≤ a.bytes) (hd : d.length ≤ n) (h1 : m.writeAt x d = .ok m1)
    (h2 : m1.mark a.bmBase off n = .ok m') :
    ∃ b', Effect m b B0 m' b' (a.lo - m.base + off) n :=
  ht.store_mark hx hfit hd h1 (hs.writeAt h1) rfl rfl h2

end store

/-! ## §5 what else C05 and C16 use of the model: the errors of `write`, the container a
       failing stream call returns -/

/-- the only error values of `write`: both are raised before any byte is stored -/
theorem write_err_kind {m : Mem} {s : VSlice} {buf : List UInt8} {addr : Nat} {e : Err}
    (h : s.write m buf addr = .err e) : e = .outOfBounds ∨ e = .overflow := by
  unfold VSlice.write at h
  split at h
  · cases h
  · split at h
    · cases h; exact .inl rfl
    · rw [offset_checked, checked] at h
      split at h
      · split at h
        · -- the helper answers `.ok` or `.panic`, never an error value
          rcases DataLemmas.copyToVolatileSlice_cases m _ buf _ with ⟨m', hc⟩ | hc
          · rw [Res.bind_ok, hc] at h
            cases h
          · rw [Res.bind_ok, hc] at h
            cases h
        · cases h; exact .inl rfl
      · cases h; exact .inr rfl

theorem unwrapRes_ok {α} {r : Res α} {a : α} (h : Res.unwrapRes r = .ok a) : r = .ok a := by
  cases r <;> simp [Res.unwrapRes] at h ⊢
  exact h

theorem rvFail_fst (r0 : Reader) (m : Mem) (s : VSlice) (k : Nat) :
    (Reader.rvFail r0 m s k).1 = m ∨
    (r0.kind = .fd ∧ m.mark s.bmBase 0 s.size = .ok (Reader.rvFail r0 m s k).1) := by
  unfold Reader.rvFail
  cases hk : r0.kind
  case fd =>
    cases hmk : m.mark s.bmBase 0 s.size with
    | ok m2 => exact .inr ⟨rfl, rfl⟩
    | err e => exact .inl rfl
    | panic => exact .inl rfl
  all_goals exact .inl rfl

/-! ## §6 the mutating operations as one step function -/

/-- a mutating operation, applied through an accessor of the matching kind -/
inductive WOp where
  | copyIn (src : List UInt8) (total : Nat)         -- `copy_to_volatile_slice(slice, src, total)`
  | write (buf : List UInt8) (addr : Nat)            -- `Bytes::write`
  | writeSlice (buf : List UInt8) (addr : Nat)       -- `Bytes::write_slice` / `write_obj`
  | store (val : List UInt8) (t : Ty) (addr : Nat)   -- `Bytes::store`
  | refStore (val : List UInt8)                      -- `VolatileRef::store`
  | arrStore (i : Nat) (val : List UInt8)            -- `VolatileArrayRef::store`
  | arrCopyFrom (blen : Nat) (buf : List UInt8)      -- `VolatileArrayRef::copy_from`
  | copyFrom (t : Ty) (blen : Nat) (buf : List UInt8) -- `VolatileSlice::copy_from`
  | fromSlice (src : VSlice)                         -- `src.copy_to_volatile_slice(self)`
  | fromArr (src : VArr)                             -- `src.copy_to_volatile_slice(self)`
  | stream (r : Reader)                              -- `r.read_volatile(&mut self)`
  deriving Repr, DecidableEq

/-- apply a mutating operation.  A kind mismatch is a type error in Rust and is answered
    as in `C01.derive`.  `copyIn` carries the precondition of the (private, `unsafe`) helper
    `copy_to_volatile_slice`: `total ≤ slice.len()`.  `writeSlice` and `stream` return
    the container alongside their result, so they always yield a state. -/
def applyW (m : Mem) : Acc → WOp → Res Mem
  | .sl s, .copyIn src total =>
    if total ≤ s.size then mapOk Prod.fst (copyToVolatileSlice m s src total) else .panic
  | .sl s, .write buf addr => mapOk Prod.fst (s.write m buf addr)
  | .sl s, .writeSlice buf addr => .ok (s.writeSlice m buf addr).1
  | .sl s, .store val t addr => s.store m val t addr
  | .rf r, .refStore val => r.store m val
  | .ar a, .arrStore i val => a.store m i val
  | .ar a, .arrCopyFrom blen buf => a.copyFrom m blen buf
  | .sl s, .copyFrom t blen buf => s.copyFrom m t blen buf
  | .sl dst, .fromSlice src => src.copyToSlice m dst
  | .sl dst, .fromArr src => src.copyToSlice m dst
  | .sl s, .stream r => .ok (r.readVolatile m s).1
  | _, _ => .err .hostAddressNotAvailable

/-- offset of the written window inside the accessor -/
def WOp.shift : Acc → WOp → Nat
  | _, .write _ addr => addr
  | _, .writeSlice _ addr => addr
  | _, .store _ _ addr => addr
  | .ar a, .arrStore i _ => a.ty.size * i
  | _, _ => 0

/-- first container byte of the window an operation may store to -/
def winStart (m : Mem) (a : Acc) (op : WOp) : Nat := a.lo - m.base + op.shift a

/-! ## §7 example container: 300 bytes at 0x1000, 128-byte pages, `B0 = 0` -/

def dMem : Mem := { base := 0x1000, bytes := List.replicate 300 0, bm := some (ABitmap.new 300 128) }

theorem dMem_len : dMem.bytes.length = 300 := List.length_replicate

theorem dMem_setting : Setting dMem (ABitmap.new 300 128) 0 :=
  ⟨rfl, C09.new_inv 300 128 (by decide), by rw [dMem_len]; decide, by rw [dMem_len]; decide,
    by rw [dMem_len]; decide⟩

/-- a depth-3 chain with offsets 5, 130, 7 -/
def dSlice : VSlice := { addr := 0x1000 + 142, size := 10, bmBase := 142 }

theorem dSlice_chain :
    deriveChain (.sl (rootAt dMem 0)) [.sub 5 290, .off 130, .sub 7 10] = .ok (.sl dSlice) := by
  show deriveChain (.sl ⟨0x1000, dMem.bytes.length, 0⟩) _ = _
  rw [dMem_len]
  decide

end Dirty
end VmMem
