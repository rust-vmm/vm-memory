/-
  VmMem.Lemmas.FlatLemmas — guest memory as one flat sparse byte array.

  * `GWF m`        : layout `WF` + every region's container is sane (`BmInv`, fits the
                     address space) — what C04 needs of a container
  * `flat m a`     : the byte at guest address `a` (`none` in a hole)
  * `SameLayout`   : same starts / lengths / ids / host bases (only bytes and bitmaps differ)
  * `overlay`      : what a store does to the flat bytes (`C03.overlay`; `overlay_overlay`, `flat_splice`)
  One turn of `try_access` under `WF` (`loop_unmapped`, `C14g.loop_step_ok / _zero / _err`, `loop_step`) is read off
  `LoopLemmas.loop_hole` / `loop_chunk`; the `write` / `read` callbacks go through `LoopLemmas.loop_full`; region-level
  `write`, `read`, `store`, `load` are evaluated on the region's root slice (`rootSlice`, `RegWF`).
-/
import VmMem.Lemmas.LoopLemmas
import VmMem.Lemmas.DataLemmas
import VmMem.Props.C04
namespace VmMem
namespace FlatLemmas
open GuestLemmas DataLemmas

/-- well-formed guest memory: layout `WF`; every region's container has a sane tracking
    bitmap and fits the host address space (`base + len ≤ 2^64`; the length bound of
    `C04.MemWF` follows from `WF`). -/
def GWF (m : GMem) : Prop :=
  WF m ∧ ∀ r ∈ m, BmInv r.mem ∧ r.mem.base + r.mem.bytes.length ≤ U

def flat (m : GMem) (a : Nat) : Option UInt8 :=
  match m.find? (fun r => decide (r.start ≤ a ∧ a < r.start + r.len)) with
  | some r => r.mem.bytes[a - r.start]?
  | none => none

/-- what identifies a region in the layout: start, length, mapping id, host base -/
def key (r : Region) : Nat × Nat × Nat × Nat := (r.start, r.len, r.id, r.mem.base)

/-- same layout: starts, lengths, ids, host bases unchanged (only bytes / bitmaps may differ) -/
def SameLayout (m m' : GMem) : Prop := m'.map key = m.map key

theorem SameLayout.refl (m : GMem) : SameLayout m m := rfl
theorem SameLayout.symm {m m' : GMem} (h : SameLayout m m') : SameLayout m' m := Eq.symm h
theorem SameLayout.trans {a b c : GMem} (h1 : SameLayout a b) (h2 : SameLayout b c) :
    SameLayout a c := Eq.trans h2 h1

theorem SameLayout.length {m m' : GMem} (h : SameLayout m m') : m'.length = m.length := by
  have := congrArg List.length h
  simpa using this

theorem SameLayout.getElem? {m m' : GMem} (h : SameLayout m m') {i : Nat} {r : Region}
    (hi : m[i]? = some r) : ∃ r', m'[i]? = some r' ∧ key r' = key r := by
  have h1 : (m'.map key)[i]? = (m.map key)[i]? := by rw [h]
  rw [List.getElem?_map, List.getElem?_map, hi] at h1
  exact Option.map_eq_some_iff.1 h1

theorem key_eq {r r' : Region} (h : key r' = key r) :
    r'.start = r.start ∧ r'.len = r.len ∧ r'.id = r.id ∧ r'.mem.base = r.mem.base := by
  unfold key at h
  injection h with h1 h; injection h with h2 h; injection h with h3 h4
  exact ⟨h1, h2, h3, h4⟩

theorem SameLayout.set {m : GMem} {i : Nat} {r r' : Region} (hi : m[i]? = some r)
    (hk : key r' = key r) : SameLayout m (m.set i r') := by
  obtain ⟨hlt, rfl⟩ := List.getElem?_eq_some_iff.1 hi
  unfold SameLayout
  rw [List.map_set, hk, ← List.getElem_map key (h := by rw [List.length_map]; exact hlt),
    List.set_getElem_self]

theorem SameLayout.WF {m m' : GMem} (h : SameLayout m m') (hw : WF m) : WF m' := by
  have e : ∀ l : GMem, VmMem.WF l ↔ (∀ k ∈ l.map key, 0 < k.2.1 ∧ k.1 + k.2.1 < U) ∧
      (l.map key).Pairwise (fun k s => k.1 + k.2.1 ≤ s.1) := fun l => by
    rw [List.forall_mem_map, List.pairwise_map]
    rfl
  rw [e] at hw ⊢
  rw [h]
  exact hw

theorem SameLayout.exists_congr {m m' : GMem} (h : SameLayout m m') (p : Nat × Nat × Nat × Nat → Prop) :
    (∃ r ∈ m', p (key r)) ↔ ∃ r ∈ m, p (key r) := by
  have e : ∀ l : GMem, (∃ r ∈ l, p (key r)) ↔ ∃ k ∈ l.map key, p k := fun l =>
    ⟨fun ⟨r, hr, hp⟩ => ⟨key r, List.mem_map.2 ⟨r, hr, rfl⟩, hp⟩, fun ⟨k, hk, hp⟩ => by
      obtain ⟨r, hr, rfl⟩ := List.mem_map.1 hk
      exact ⟨r, hr, hp⟩⟩
  rw [e, e, h]

theorem SameLayout.mapped {m m' : GMem} (h : SameLayout m m') (a : Nat) :
    mapped m' a ↔ mapped m a :=
  h.exists_congr (fun k => k.1 ≤ a ∧ a < k.1 + k.2.1)

theorem SameLayout.runLen {m m' : GMem} (h : SameLayout m m') (a cap : Nat) :
    runLen m' a cap = runLen m a cap := runLen_congr h.mapped a cap

theorem flat_of_getElem? {m : GMem} (h : WF m) {a i : Nat} {r : Region}
    (hi : m[i]? = some r) (hin : r.start ≤ a ∧ a < r.start + r.len) :
    flat m a = r.mem.bytes[a - r.start]? := by
  unfold flat
  cases hf : m.find? (fun r => decide (r.start ≤ a ∧ a < r.start + r.len)) with
  | none =>
    have := List.find?_eq_none.1 hf r (List.mem_of_getElem? hi)
    simp at this
    omega
  | some s =>
    have hs := List.find?_some hf
    have hmem := List.mem_of_find?_eq_some hf
    obtain ⟨j, hj⟩ := List.getElem?_of_mem hmem
    have hs' : s.start ≤ a ∧ a < s.start + s.len := by simpa using hs
    have hij := region_unique h.toWFT hi hj hin hs'
    subst hij
    rw [hi] at hj; cases hj
    rfl

theorem flat_unmapped {m : GMem} {a : Nat} (hn : ¬ mapped m a) : flat m a = none := by
  unfold flat
  have : m.find? (fun r => decide (r.start ≤ a ∧ a < r.start + r.len)) = none := by
    rw [List.find?_eq_none]
    intro r hr hp
    exact hn ⟨r, hr, by simpa using hp⟩
  rw [this]

theorem flat_isSome_iff {m : GMem} (h : WF m) (a : Nat) : (flat m a).isSome = true ↔ mapped m a := by
  rcases mapped_or_not m a with ⟨i, r, hi, hin⟩ | hn
  · have hm : mapped m a := mapped_of_getElem? hi hin
    rw [flat_of_getElem? h hi hin]
    have hlt : a - r.start < r.mem.bytes.length := Nat.sub_lt_left_of_lt_add hin.1 hin.2
    simp [hm, hlt]
  · rw [flat_unmapped hn]; simp [hn]

theorem flat_set {m : GMem} (h : WF m) {i : Nat} {r r' : Region} (hi : m[i]? = some r)
    (hk : key r' = key r) (a : Nat) :
    flat (m.set i r') a =
      if r.start ≤ a ∧ a < r.start + r.len then r'.mem.bytes[a - r.start]? else flat m a := by
  have hsl : SameLayout m (m.set i r') := SameLayout.set hi hk
  have hw' : WF (m.set i r') := hsl.WF h
  obtain ⟨hk1, hk2, _, _⟩ := key_eq hk
  have hlt : i < m.length := (List.getElem?_eq_some_iff.1 hi).1
  have hi' : (m.set i r')[i]? = some r' := by
    rw [List.getElem?_set]; simp [hlt]
  by_cases hin : r.start ≤ a ∧ a < r.start + r.len
  · rw [if_pos hin, flat_of_getElem? hw' hi' (by rw [hk1, hk2]; exact hin), hk1]
  · rw [if_neg hin]
    rcases mapped_or_not m a with ⟨j, s, hj, hsin⟩ | hn
    · have hne : i ≠ j := by
        intro e; subst e; rw [hi] at hj; cases hj; exact hin hsin
      have hj' : (m.set i r')[j]? = some s := by
        rw [List.getElem?_set, if_neg hne]; exact hj
      rw [flat_of_getElem? hw' hj' hsin, flat_of_getElem? h hj hsin]
    · rw [flat_unmapped hn, flat_unmapped (fun x => hn ((hsl.mapped a).1 x))]

theorem GWF.wf {m : GMem} (h : GWF m) : WF m := h.1

theorem GWF.set {m : GMem} (h : GWF m) {i : Nat} {r r' : Region} (hi : m[i]? = some r)
    (hk : key r' = key r) (hinv : BmInv r'.mem) : GWF (m.set i r') := by
  refine ⟨(SameLayout.set hi hk).WF h.1, ?_⟩
  intro x hx
  rcases List.mem_or_eq_of_mem_set hx with hx | rfl
  · exact h.2 x hx
  · obtain ⟨_, hk2, _, hk4⟩ := key_eq hk
    have := (h.2 r (List.mem_of_getElem? hi)).2
    unfold Region.len at hk2
    exact ⟨hinv, by rw [hk2, hk4]; exact this⟩

/-! ### one turn of the `try_access` loop under `WF` -/

/-- inside a region of a `WF` layout, advancing by at most the rest of the region neither
    overflows nor wraps to 0: `cur.overflowing_add(n) = (cur + n, false)` -/
theorem no_wrap_step {m : GMem} (h : WF m) {cur i : Nat} {r : Region} (hi : m[i]? = some r)
    (hin : r.start ≤ cur ∧ cur < r.start + r.len) {n : Nat} (hn : n ≤ r.len - (cur - r.start)) :
    overflowingAdd cur n = (cur + n, false) ∧ cur + n ≤ r.start + r.len ∧ r.start + r.len < U := by
  have hr := h.getElem? hi
  have hle := LoopLemmas.add_le_end hin hn
  exact ⟨LoopLemmas.overflowingAdd_of_lt (Nat.lt_of_le_of_lt hle hr.2), hle, hr.2⟩

theorem loop_unmapped {σ : Type} (f : GMem → σ → Nat → Nat → Nat → Nat → GMem × σ × Res Nat)
    {m : GMem} (h : WF m) (count addr : Nat) (st : σ) {cur : Nat} (total : Nat)
    (hun : ¬ mapped m cur) :
    GMem.tryAccessLoop f count addr m st cur total =
      if total = 0 then (m, st, .err (.invalidGuestAddress addr)) else (m, st, .ok total) := by
  rw [LoopLemmas.loop_hole f h.toWFT count addr st total hun]
  split <;> rfl

/-! inside a region, by the callback's answer (`Props/C14g` audits the three under its own name) -/

/-- callback moved `n` bytes, `0 < n ≤ len`: either the count is reached, or the loop goes on at
    `cur + n` — which is still inside the region or exactly its end (`< 2^64`): no wrap -/
theorem _root_.VmMem.C14g.loop_step_ok {σ : Type} (f : GMem → σ → Nat → Nat → Nat → Nat → GMem × σ × Res Nat)
    {m : GMem} (h : WF m) {count : Nat} (hc : count < U) (addr : Nat) (st : σ)
    {cur total i : Nat} {r : Region} (hi : m[i]? = some r)
    (hin : r.start ≤ cur ∧ cur < r.start + r.len) (ht : total < count)
    {m1 : GMem} {st1 : σ} {n : Nat} (hpos : 0 < n)
    (hn : n ≤ min (r.len - (cur - r.start)) (count - total))
    (hf : f m st total (min (r.len - (cur - r.start)) (count - total)) (cur - r.start) i =
      (m1, st1, .ok n)) :
    GMem.tryAccessLoop f count addr m st cur total =
      if total + n < count then GMem.tryAccessLoop f count addr m1 st1 (cur + n) (total + n)
      else (m1, st1, .ok count) := by
  have hend : cur + n < U := Nat.lt_of_le_of_lt
    (LoopLemmas.add_le_end hin (Nat.le_trans hn (Nat.min_le_left _ _))) (h.getElem? hi).2
  rw [LoopLemmas.loop_chunk f h.toWFT count addr st hi hin (Nat.le_of_lt ht), hf,
    LoopLemmas.next_ok (n := n) hpos
      (Nat.add_le_of_le_sub' (Nat.le_of_lt ht) (Nat.le_trans hn (Nat.min_le_right _ _))) hc (Nat.le_of_lt hend)]
  by_cases hlt : total + n < count
  · rw [if_pos hlt, if_pos hlt, if_neg (Nat.ne_of_lt hend)]
  · rw [if_neg hlt, if_neg hlt]

theorem _root_.VmMem.C14g.loop_step_zero {σ : Type} (f : GMem → σ → Nat → Nat → Nat → Nat → GMem × σ × Res Nat)
    {m : GMem} (h : WF m) {count : Nat} (addr : Nat) (st : σ)
    {cur total i : Nat} {r : Region} (hi : m[i]? = some r)
    (hin : r.start ≤ cur ∧ cur < r.start + r.len) (ht : total < count)
    {m1 : GMem} {st1 : σ}
    (hf : f m st total (min (r.len - (cur - r.start)) (count - total)) (cur - r.start) i =
      (m1, st1, .ok 0)) :
    GMem.tryAccessLoop f count addr m st cur total = (m1, st1, .ok total) := by
  rw [LoopLemmas.loop_chunk f h.toWFT count addr st hi hin (Nat.le_of_lt ht), hf]
  rfl

theorem _root_.VmMem.C14g.loop_step_err {σ : Type} (f : GMem → σ → Nat → Nat → Nat → Nat → GMem × σ × Res Nat)
    {m : GMem} (h : WF m) {count : Nat} (addr : Nat) (st : σ)
    {cur total i : Nat} {r : Region} (hi : m[i]? = some r)
    (hin : r.start ≤ cur ∧ cur < r.start + r.len) (ht : total < count)
    {m1 : GMem} {st1 : σ} {e : Err}
    (hf : f m st total (min (r.len - (cur - r.start)) (count - total)) (cur - r.start) i =
      (m1, st1, .err e)) :
    GMem.tryAccessLoop f count addr m st cur total = (m1, st1, .err e) := by
  rw [LoopLemmas.loop_chunk f h.toWFT count addr st hi hin (Nat.le_of_lt ht), hf]
  rfl

theorem loop_step {σ : Type} (f : GMem → σ → Nat → Nat → Nat → Nat → GMem × σ × Res Nat)
    {m : GMem} (h : WF m) {count : Nat} (hc : count < U) (addr : Nat) (st : σ)
    {cur total i : Nat} {r : Region} (hi : m[i]? = some r)
    (hin : r.start ≤ cur ∧ cur < r.start + r.len) (ht : total < count)
    {m1 : GMem} {st1 : σ} {n : Nat} (hn : n = min (r.len - (cur - r.start)) (count - total))
    (hf : f m st total n (cur - r.start) i = (m1, st1, .ok n)) :
    GMem.tryAccessLoop f count addr m st cur total =
      if total + n < count then GMem.tryAccessLoop f count addr m1 st1 (cur + n) (total + n)
      else (m1, st1, .ok count) :=
  C14g.loop_step_ok f h hc addr st hi hin ht (hn ▸ LoopLemmas.chunk_pos hin (Nat.sub_pos_of_lt ht))
    (Nat.le_of_eq hn) (hn ▸ hf)

/-! ### region-level operations, evaluated -/

structure RegWF (r : Region) : Prop where
  len_lt : r.len < U
  inv : BmInv r.mem
  fits : r.mem.base + r.mem.bytes.length ≤ U

theorem RegWF.memWF {r : Region} (h : RegWF r) : C04.MemWF r.mem :=
  ⟨h.fits, by have := h.len_lt; unfold Region.len at this; exact this⟩

theorem GWF.regWF {m : GMem} (h : GWF m) {i : Nat} {r : Region} (hi : m[i]? = some r) : RegWF r := by
  have h1 := h.1.getElem? hi
  have h2 := h.2 r (List.mem_of_getElem? hi)
  exact ⟨by omega, h2.1, h2.2⟩

/-- the slice `as_volatile_slice()` hands out -/
def rootSlice (r : Region) : VSlice :=
  { addr := r.mem.base + 0, size := r.len, bmBase := sliceAt 0 0 }

theorem asVolatileSlice_eq (r : Region) (hl : r.len < U) : r.asVolatileSlice = .ok (rootSlice r) := by
  unfold Region.asVolatileSlice
  rw [Region.getSlice_eq r hl, if_pos (by omega)]
  rfl

theorem rootSlice_inside (r : Region) : C04.Inside r.mem (rootSlice r) :=
  ⟨Nat.le_refl _, Nat.le_refl _⟩

theorem rootSlice_ofs (r : Region) : C04.ofs r.mem (rootSlice r) = 0 :=
  Nat.sub_self _

theorem Region.write_ok (r : Region) (hr : RegWF r) (buf : List UInt8) (hne : buf ≠ []) (a : Nat)
    (ha : a < r.len) :
    ∃ mem', r.write buf a = .ok ({ r with mem := mem' }, min buf.length (r.len - a)) ∧
      Stored r.mem a (buf.take (min buf.length (r.len - a))) (sliceAt (sliceAt 0 0) a) 0
        (min buf.length (r.len - a)) mem' := by
  obtain ⟨mem', hok, hst⟩ := C04.write_ok r.mem (rootSlice r) buf a hr.inv hr.memWF
    (rootSlice_inside r) hne ha
  rw [rootSlice_ofs, Nat.zero_add] at hst
  refine ⟨mem', ?_, hst⟩
  unfold Region.write
  rw [asVolatileSlice_eq r hr.len_lt]
  simp only [Res.unwrapRes, Res.bind_ok]
  rw [hok]
  rfl

theorem Region.read_ok (r : Region) (hr : RegWF r) (len : Nat) (hpos : 0 < len) (a : Nat)
    (ha : a < r.len) :
    r.read len a = .ok ((r.mem.bytes.drop a).take (min len (r.len - a))) := by
  unfold Region.read
  rw [asVolatileSlice_eq r hr.len_lt]
  simp only [Res.unwrapRes, Res.bind_ok]
  rw [C04.read_ok r.mem (rootSlice r) len a hr.memWF (rootSlice_inside r) hpos ha, rootSlice_ofs,
    Nat.zero_add]
  rfl

theorem key_with_mem (r : Region) {mem' : Mem} (hlen : mem'.bytes.length = r.mem.bytes.length)
    (hbase : mem'.base = r.mem.base) : key { r with mem := mem' } = key r := by
  unfold key Region.len
  simp only [hlen, hbase]

end FlatLemmas

/-- `fl` with `d` laid over `[addr, addr + d.length)` -/
def C03.overlay (fl : Nat → Option UInt8) (addr : Nat) (d : List UInt8) : Nat → Option UInt8 :=
  fun a => if addr ≤ a ∧ a < addr + d.length then d[a - addr]? else fl a

namespace FlatLemmas
open GuestLemmas DataLemmas
open C03 (overlay)

/-! ### overlay: what a store does to the flat bytes -/

theorem overlay_nil (fl : Nat → Option UInt8) (addr : Nat) : overlay fl addr [] = fl := by
  funext a
  unfold overlay
  rw [if_neg (by simp)]

theorem overlay_apply (fl : Nat → Option UInt8) (c : Nat) {d : List UInt8} {k : Nat} (hd : d.length = k)
    (a : Nat) : overlay fl c d a = if c ≤ a ∧ a < c + k then d[a - c]? else fl a := by
  subst hd; rfl

theorem overlay_overlay (fl : Nat → Option UInt8) (c : Nat) (d1 d2 : List UInt8) :
    overlay (overlay fl c d1) (c + d1.length) d2 = overlay fl c (d1 ++ d2) := by
  funext a
  unfold overlay
  rw [List.length_append]
  by_cases hc : c ≤ a
  · obtain ⟨j, rfl⟩ := Nat.exists_eq_add_of_le hc
    simp only [Nat.add_assoc, Nat.add_le_add_iff_left, Nat.add_lt_add_iff_left, Nat.add_sub_cancel_left,
      Nat.add_sub_add_left, Nat.le_add_right, true_and]
    by_cases h1 : j < d1.length
    · rw [if_neg fun h => Nat.not_le.2 h1 h.1, if_pos h1, if_pos (Nat.lt_add_right _ h1),
        List.getElem?_append_left h1]
    · rw [List.getElem?_append_right (Nat.le_of_not_lt h1), if_neg h1]
      by_cases h2 : j < d1.length + d2.length
      · rw [if_pos ⟨Nat.le_of_not_lt h1, h2⟩, if_pos h2]
      · rw [if_neg fun h => h2 h.2, if_neg h2]
  · rw [if_neg fun h => hc (Nat.le_trans (Nat.le_add_right _ _) h.1), if_neg fun h => hc h.1,
      if_neg fun h => hc h.1]

/-- the step of every copy loop: `k` items of `l` laid down, then the next `n` -/
theorem overlay_take_add (fl : Nat → Option UInt8) (c : Nat) (l : List UInt8) {k : Nat} (n : Nat)
    (hk : k ≤ l.length) :
    overlay (overlay fl c (l.take k)) (c + k) ((l.drop k).take n) = overlay fl c (l.take (k + n)) := by
  have := overlay_overlay fl c (l.take k) ((l.drop k).take n)
  rw [List.length_take_of_le hk] at this
  rw [this, List.take_add]

theorem overlay_drop_take (fl : Nat → Option UInt8) (addr : Nat) (buf : List UInt8) (t k : Nat)
    (hk : t + k ≤ buf.length) (a : Nat) :
    overlay fl addr ((buf.drop t).take k) a =
      if addr ≤ a ∧ a < addr + k then buf[t + (a - addr)]? else fl a := by
  rw [overlay_apply fl addr (k := k) (by rw [List.length_take, List.length_drop]; omega)]
  by_cases hc : addr ≤ a ∧ a < addr + k
  · rw [if_pos hc, if_pos hc, List.getElem?_take, if_pos (by omega), List.getElem?_drop]
  · rw [if_neg hc, if_neg hc]

theorem overlay_take (fl : Nat → Option UInt8) (addr : Nat) (buf : List UInt8) (k : Nat)
    (hk : k ≤ buf.length) (a : Nat) :
    overlay fl addr (buf.take k) a = if addr ≤ a ∧ a < addr + k then buf[a - addr]? else fl a := by
  have := overlay_drop_take fl addr buf 0 k (by omega) a
  rwa [List.drop_zero, Nat.zero_add] at this

theorem flat_splice {m : GMem} (h : WF m) {i : Nat} {r : Region} (hi : m[i]? = some r)
    {mem' : Mem} {w : Nat} {d : List UInt8}
    (hb : mem'.bytes = splice r.mem.bytes w d) (hbase : mem'.base = r.mem.base)
    (hw : w + d.length ≤ r.len) :
    flat (m.set i { r with mem := mem' }) = overlay (flat m) (r.start + w) d := by
  have hw' : w + d.length ≤ r.mem.bytes.length := hw
  funext a
  rw [flat_set h hi (key_with_mem r (by rw [hb]; exact splice_length _ _ _ hw') hbase)]
  unfold overlay
  by_cases hin : r.start ≤ a ∧ a < r.start + r.len
  · obtain ⟨j, rfl⟩ := Nat.exists_eq_add_of_le hin.1
    rw [if_pos hin, flat_of_getElem? h hi hin]
    rw [hb, Nat.add_sub_cancel_left, splice_getElem? _ _ _ hw', Nat.add_assoc, Nat.add_sub_add_left]
    simp only [Nat.add_le_add_iff_left, Nat.add_lt_add_iff_left]
    by_cases h1 : j < w
    · rw [if_pos h1, if_neg fun h => Nat.not_le.2 h1 h.1]
    · rw [if_neg h1]
      by_cases h2 : j < w + d.length
      · rw [if_pos h2, if_pos ⟨Nat.le_of_not_lt h1, h2⟩]
      · rw [if_neg h2, if_neg fun h => h2 h.2]
  · rw [if_neg hin, if_neg fun h => hin ⟨Nat.le_trans (Nat.le_add_right _ _) h.1,
      Nat.lt_of_lt_of_le h.2 (Nat.add_assoc _ _ _ ▸ Nat.add_le_add_left hw _)⟩]

theorem flat_stored {m : GMem} (h : WF m) {i : Nat} {r : Region} (hi : m[i]? = some r)
    {mem' : Mem} {w : Nat} {d : List UInt8} {b o l : Nat} (hst : Stored r.mem w d b o l mem')
    (hw : w + d.length ≤ r.len) (a : Nat) :
    flat (m.set i { r with mem := mem' }) a =
      if r.start + w ≤ a ∧ a < r.start + w + d.length then d[a - (r.start + w)]? else flat m a :=
  congrFun (flat_splice h hi hst.bytes hst.base hw) a

/-! ### the loop with the `write` callback -/

/-- the callback of `GMem.write`: `region.write(&buf[total..], caddr)` -/
def wcb (buf : List UInt8) : GMem → Unit → Nat → Nat → Nat → Nat → GMem × Unit × Res Nat :=
  fun m _ total _len start idx =>
    if total > buf.length then (m, (), .panic)
    else match m[idx]? with
      | none => (m, (), .panic)
      | some reg =>
        match reg.write (buf.drop total) start with
        | .ok (reg', n) => (m.setRegion idx reg', (), .ok n)
        | .err e => (m, (), .err e)
        | .panic => (m, (), .panic)

theorem write_eq_loop (m : GMem) {buf : List UInt8} (hb : buf ≠ []) (addr : Nat) :
    m.write buf addr =
      ((GMem.tryAccessLoop (wcb buf) buf.length addr m () addr 0).1,
       (GMem.tryAccessLoop (wcb buf) buf.length addr m () addr 0).2.2) := by
  -- `unfold` first: a bare `rfl` makes the unifier unfold the loop as well, at 15 times the cost
  unfold GMem.write GMem.tryAccess wcb
  rw [if_neg (fun h0 => hb (List.length_eq_zero_iff.1 h0))]
  rfl

theorem wcb_step {m : GMem} (h : GWF m) (buf : List UInt8) {cur total i : Nat} {r : Region}
    (hi : m[i]? = some r) (hin : r.start ≤ cur ∧ cur < r.start + r.len) (ht : total < buf.length)
    {n : Nat} (hn : n = min (r.len - (cur - r.start)) (buf.length - total)) (len : Nat) :
    ∃ mem', wcb buf m () total len (cur - r.start) i = (m.set i { r with mem := mem' }, (), .ok n) ∧
      Stored r.mem (cur - r.start) ((buf.drop total).take n) (sliceAt (sliceAt 0 0) (cur - r.start))
        0 n mem' := by
  obtain ⟨mem', hok, hst⟩ := Region.write_ok r (h.regWF hi) (buf.drop total)
    (mt List.drop_eq_nil_iff.1 (Nat.not_le.2 ht)) (cur - r.start)
    (Nat.sub_lt_left_of_lt_add hin.1 hin.2)
  have hmin : min (buf.drop total).length (r.len - (cur - r.start)) = n := by
    rw [List.length_drop, hn, Nat.min_comm]
  rw [hmin] at hok hst
  refine ⟨mem', ?_, hst⟩
  unfold wcb
  rw [if_neg (Nat.not_lt.2 (Nat.le_of_lt ht))]
  simp only [hi, hok]
  rfl

/-- `C03.write_flat` from any point `(cur, total)` of the walk -/
theorem loop_write (buf : List UInt8) (hl : buf.length < U) (addr : Nat) (m : GMem) (cur total : Nat)
    (h : GWF m) (ht : total < buf.length) :
    ∃ m', GMem.tryAccessLoop (wcb buf) buf.length addr m () cur total =
        (m', (), if runLen m cur (buf.length - total) = 0 ∧ total = 0
                 then .err (.invalidGuestAddress addr)
                 else .ok (total + runLen m cur (buf.length - total))) ∧
      (runLen m cur (buf.length - total) = 0 → m' = m) ∧
      SameLayout m m' ∧ GWF m' ∧
      ∀ a, flat m' a =
        if cur ≤ a ∧ a < cur + runLen m cur (buf.length - total) then buf[total + (a - cur)]?
        else flat m a := by
  refine (LoopLemmas.loop_full (wcb buf) hl addr m () cur total ht
    (fun k m' _ => (k = 0 → m' = m) ∧ SameLayout m m' ∧ GWF m' ∧
      flat m' = overlay (flat m) cur ((buf.drop total).take k))
    (fun ⟨_, hsl, hg, _⟩ => ⟨hg.1.toWFT, hsl.mapped⟩) ?_
    ⟨fun _ => rfl, SameLayout.refl m, h, (overlay_nil _ _).symm⟩).elim ?_
  · rintro k m' _ i r ⟨_, hsl, hg, hfl⟩ hi hin htk len hlen hpos hkl
    obtain ⟨mem', hcb, hst⟩ := wcb_step hg buf hi hin htk hlen len
    have hkey := key_with_mem r hst.length_eq hst.base
    refine ⟨_, _, hcb, fun h0 => absurd (Nat.add_eq_zero_iff.1 h0).2 (Nat.ne_of_gt hpos),
      hsl.trans (SameLayout.set hi hkey), hg.set hi hkey hst.inv, ?_⟩
    rw [flat_splice hg.1 hi hst.bytes hst.base
        (LoopLemmas.off_add_le hin (Nat.le_trans (List.length_take_le _ _) (hlen ▸ Nat.min_le_left _ _))), hfl,
      ← overlay_take_add _ _ _ len (by
        rw [List.length_drop]
        exact Nat.le_trans (Nat.le_add_right k len) (Nat.le_trans hkl (runLen_le m cur _))),
      List.drop_drop, Nat.add_sub_cancel' hin.1]
  · rintro m' ⟨⟨⟩, e, h0, hsl, hg, hfl⟩
    exact ⟨m', e, h0, hsl, hg, fun a => by
      rw [hfl, overlay_drop_take _ _ _ _ _ (Nat.add_le_of_le_sub' (Nat.le_of_lt ht) (runLen_le m cur _))]⟩

theorem region_window_flat {m : GMem} (h : WF m) {i : Nat} {r : Region} (hi : m[i]? = some r)
    {a : Nat} (ha : r.start ≤ a) (n : Nat) (hw : a + n ≤ r.start + r.len) :
    ((r.mem.bytes.drop (a - r.start)).take n).length = n ∧
    ∀ j, j < n → ((r.mem.bytes.drop (a - r.start)).take n)[j]? = flat m (a + j) := by
  refine ⟨take_drop_length _ _ _ (by unfold Region.len at hw; omega), ?_⟩
  intro j hj
  rw [take_drop_getElem?, if_pos hj, flat_of_getElem? h hi ⟨Nat.le_add_right_of_le ha, by omega⟩,
    Nat.sub_add_comm ha]

/-! ### the loop with the `read` callback -/

/-- the callback of `GMem.read`: `region.read(&mut buf[total..], caddr)`, the bytes appended -/
def rcb (len : Nat) : GMem → List UInt8 → Nat → Nat → Nat → Nat → GMem × List UInt8 × Res Nat :=
  fun m acc total _len start idx =>
    if total > len then (m, acc, .panic)
    else match m[idx]? with
      | none => (m, acc, .panic)
      | some reg =>
        match reg.read (len - total) start with
        | .ok d => (m, acc ++ d, .ok d.length)
        | .err e => (m, acc, .err e)
        | .panic => (m, acc, .panic)

theorem read_eq_loop (m : GMem) {len : Nat} (hpos : 0 < len) (addr : Nat) :
    m.read len addr =
      match (GMem.tryAccessLoop (rcb len) len addr m [] addr 0).2.2 with
      | .ok _ => .ok (GMem.tryAccessLoop (rcb len) len addr m [] addr 0).2.1
      | .err e => .err e
      | .panic => .panic := by
  unfold GMem.read GMem.tryAccess rcb
  rw [if_neg (Nat.ne_of_gt hpos)]
  rfl

theorem rcb_step {m : GMem} (h : GWF m) (len : Nat) (acc : List UInt8) {cur total i : Nat}
    {r : Region} (hi : m[i]? = some r) (hin : r.start ≤ cur ∧ cur < r.start + r.len)
    (ht : total < len) {n : Nat} (hn : n = min (r.len - (cur - r.start)) (len - total)) (l : Nat) :
    rcb len m acc total l (cur - r.start) i =
      (m, acc ++ (r.mem.bytes.drop (cur - r.start)).take n, .ok n) := by
  have hrd := Region.read_ok r (h.regWF hi) (len - total) (Nat.sub_pos_of_lt ht) (cur - r.start)
    (Nat.sub_lt_left_of_lt_add hin.1 hin.2)
  have hmin : min (len - total) (r.len - (cur - r.start)) = n := by rw [hn, Nat.min_comm]
  rw [hmin] at hrd
  have hlen : ((r.mem.bytes.drop (cur - r.start)).take n).length = n :=
    take_drop_length _ _ _ (LoopLemmas.off_add_le hin (hn ▸ Nat.min_le_left _ _))
  unfold rcb
  rw [if_neg (Nat.not_lt.2 (Nat.le_of_lt ht))]
  simp only [hi, hrd, hlen]

/-- `C03.read_flat` from any point `(cur, total)` of the walk -/
theorem loop_read {m : GMem} (h : GWF m) {len : Nat} (hl : len < U) (addr : Nat) (acc : List UInt8)
    (cur total : Nat) (ht : total < len) :
    ∃ d, GMem.tryAccessLoop (rcb len) len addr m acc cur total =
        (m, acc ++ d, if runLen m cur (len - total) = 0 ∧ total = 0
                      then .err (.invalidGuestAddress addr)
                      else .ok (total + runLen m cur (len - total))) ∧
      d.length = runLen m cur (len - total) ∧
      ∀ j, j < d.length → d[j]? = flat m (cur + j) := by
  refine (LoopLemmas.loop_full (rcb len) hl addr m acc cur total ht
    (fun k m' acc' => m' = m ∧ ∃ d, acc' = acc ++ d ∧ d.length = k ∧ ∀ j, j < k → d[j]? = flat m (cur + j))
    (by rintro _ _ _ ⟨rfl, _⟩; exact ⟨h.1.toWFT, fun _ => Iff.rfl⟩) ?_
    ⟨rfl, [], (List.append_nil _).symm, rfl, fun _ hj => absurd hj (Nat.not_lt_zero _)⟩).elim ?_
  · rintro k _ _ i r ⟨rfl, d, rfl, hdl, hd⟩ hi hin htk n hn hpos _
    have hw := region_window_flat h.1 hi hin.1 n (LoopLemmas.add_le_end hin (hn ▸ Nat.min_le_left _ _))
    refine ⟨_, _, rcb_step h len (acc ++ d) hi hin htk hn n, rfl,
      d ++ (r.mem.bytes.drop (cur + k - r.start)).take n, List.append_assoc _ _ _,
      by rw [List.length_append, hdl, hw.1], ?_⟩
    intro j hj
    by_cases hjk : j < k
    · rw [List.getElem?_append_left (hdl.symm ▸ hjk)]
      exact hd j hjk
    · obtain ⟨j', rfl⟩ := Nat.exists_eq_add_of_le (Nat.le_of_not_lt hjk)
      rw [List.getElem?_append_right (hdl ▸ Nat.le_add_right k j'), hdl, Nat.add_sub_cancel_left,
        hw.2 j' (Nat.lt_of_add_lt_add_left hj), Nat.add_assoc]
  · rintro _ ⟨_, e, rfl, d, rfl, hdl, hd⟩
    exact ⟨d, e, hdl, fun j hj => hd j (hdl ▸ hj)⟩

/-! ### `store` / `load` at region level -/

theorem Region.store_ok (r : Region) (hr : RegWF r) (val : List UInt8) (t : Ty) (o : Nat)
    (hfit : o + t.size ≤ r.len) (hal : (r.mem.base + o) % t.align = 0) :
    ∃ mem', r.store val t o = .ok { r with mem := mem' } ∧
      Stored r.mem o (val.take t.size) (sliceAt 0 0) o t.size mem' := by
  obtain ⟨mem', hok, hst⟩ := C04.store_ok r.mem (rootSlice r) val t o hr.inv hr.memWF
    (rootSlice_inside r) hfit hal
  rw [rootSlice_ofs, Nat.zero_add] at hst
  refine ⟨mem', ?_, hst⟩
  unfold Region.store
  rw [asVolatileSlice_eq r hr.len_lt, Res.bind_ok, hok]
  rfl

/-- an object that does not fit the region or is misaligned: an error of the slice's aligned access (`VSlice.alignedRef`) that `Into::into` turns into
    `InvalidBackendAddress` -/
theorem rootSlice_alignedRef_err (r : Region) (t : Ty) (o : Nat)
    (h : ¬ (o + t.size ≤ r.len ∧ (r.mem.base + o) % t.align = 0)) :
    ∃ e, (rootSlice r).alignedRef o t = .err e ∧ Res.toGuestErr e = .invalidBackendAddress := by
  rw [VolatileLemmas.alignedRef_eq, show (rootSlice r).addr + o = r.mem.base + o from rfl]
  by_cases hU : o + t.size < U
  · by_cases hfit : o + t.size ≤ (rootSlice r).size
    · rw [if_pos hU, if_pos hfit, if_neg fun hal => h ⟨hfit, hal⟩]
      exact ⟨_, rfl, rfl⟩
    · rw [if_pos hU, if_neg hfit]
      exact ⟨_, rfl, rfl⟩
  · rw [if_neg hU]
    exact ⟨_, rfl, rfl⟩

theorem Region.store_err (r : Region) (hr : RegWF r) (val : List UInt8) (t : Ty) (o : Nat)
    (h : ¬ (o + t.size ≤ r.len ∧ (r.mem.base + o) % t.align = 0)) :
    r.store val t o = .err .invalidBackendAddress := by
  obtain ⟨e, he, hg⟩ := rootSlice_alignedRef_err r t o h
  unfold Region.store VSlice.store
  rw [asVolatileSlice_eq r hr.len_lt, Res.bind_ok, he]
  exact congrArg Res.err hg

theorem Region.load_ok (r : Region) (hr : RegWF r) (t : Ty) (o : Nat)
    (hfit : o + t.size ≤ r.len) (hal : (r.mem.base + o) % t.align = 0) :
    r.load t o = .ok ((r.mem.bytes.drop o).take t.size) := by
  unfold Region.load
  rw [asVolatileSlice_eq r hr.len_lt, Res.bind_ok,
    C04.load_ok r.mem (rootSlice r) t o hr.memWF (rootSlice_inside r) hfit hal, rootSlice_ofs,
    Nat.zero_add]
  rfl

theorem Region.load_err (r : Region) (hr : RegWF r) (t : Ty) (o : Nat)
    (h : ¬ (o + t.size ≤ r.len ∧ (r.mem.base + o) % t.align = 0)) :
    r.load t o = .err .invalidBackendAddress := by
  obtain ⟨e, he, hg⟩ := rootSlice_alignedRef_err r t o h
  unfold Region.load VSlice.load
  rw [asVolatileSlice_eq r hr.len_lt, Res.bind_ok, he]
  exact congrArg Res.err hg

/-- the spec-level read-out of `k` flat bytes from `a` -/
def flatRead (fl : Nat → Option UInt8) (a k : Nat) : List UInt8 :=
  (List.range k).map (fun i => (fl (a + i)).getD 0)

theorem flatRead_length (fl : Nat → Option UInt8) (a k : Nat) : (flatRead fl a k).length = k := by
  simp [flatRead]

/-- a list of `k` bytes that agrees entry-wise with `fl` IS the read-out -/
theorem eq_flatRead {fl : Nat → Option UInt8} {a k : Nat} {d : List UInt8} (hl : d.length = k)
    (hd : ∀ i, i < k → d[i]? = fl (a + i)) : d = flatRead fl a k := by
  apply List.ext_getElem?
  intro i
  unfold flatRead
  rw [List.getElem?_map]
  by_cases hi : i < k
  · rw [List.getElem?_range hi]
    show d[i]? = some ((fl (a + i)).getD 0)
    rw [← hd i hi, List.getElem?_eq_getElem (by omega)]
    rfl
  · rw [List.getElem?_eq_none (by omega), List.getElem?_eq_none (by simp; omega)]
    rfl

theorem region_flatRead {m : GMem} (h : WF m) {i : Nat} {r : Region} (hi : m[i]? = some r)
    {a n : Nat} (ha : r.start ≤ a) (hfit : a + n ≤ r.start + r.len) :
    (r.mem.bytes.drop (a - r.start)).take n = flatRead (flat m) a n :=
  (region_window_flat h hi ha n hfit).elim eq_flatRead

theorem flatRead_congr {fl fl' : Nat → Option UInt8} {a k : Nat}
    (h : ∀ i, i < k → fl' (a + i) = fl (a + i)) : flatRead fl' a k = flatRead fl a k := by
  unfold flatRead
  apply List.map_congr_left
  intro i hi
  rw [h i (by simpa using hi)]

end FlatLemmas
end VmMem
