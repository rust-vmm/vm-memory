/-
  VmMem.Lemmas.CopyLemmas — `alignment` is the lowest set bit; `copyLoop`/`copyPass` in closed
  form; the plan as a fold of passes over a list of widths (`passes`) and its invariant for
  any chain of widths.  Used by VmMem.Props.C06 and C07s.
-/
import VmMem.Model.Copy
namespace VmMem
namespace CopyLemmas

/-! ### lowest set bit -/

theorem alignment_eq_and_neg (a : BitVec 64) : alignment a = a &&& -a := by
  simp [alignment, BitVec.neg_eq_not_add]

/-- `alignment a` is exactly the lowest set bit of `a` -/
theorem alignment_eq_twoPow (a : BitVec 64) (j : Nat) (hj : j < 64)
    (hjb : a.getLsbD j = true) (hlow : ∀ i, i < j → a.getLsbD i = false) :
    alignment a = BitVec.twoPow 64 j := by
  rw [alignment_eq_and_neg]
  apply BitVec.eq_of_getLsbD_eq
  intro i hi
  rw [BitVec.getLsbD_and, BitVec.getLsbD_neg, BitVec.getLsbD_twoPow]
  by_cases hij : i = j
  · subst hij
    have : ¬ ∃ k, k < i ∧ a.getLsbD k = true :=
      fun ⟨k, hk, hkb⟩ => Bool.false_ne_true ((hlow k hk).symm.trans hkb)
    simp [hjb, hi, this]
  · by_cases hlt : i < j
    · have := hlow i hlt
      simp [this]
      omega
    · have : ∃ k, k < i ∧ a.getLsbD k = true := ⟨j, by omega, hjb⟩
      have hji : ¬ j = i := fun h => hij h.symm
      simp [this, hi, hji]

theorem alignment_spec (a : BitVec 64) (h0 : a ≠ 0) :
    ∃ j, j < 64 ∧ (alignment a).toNat = 2 ^ j ∧ a.toNat.testBit j = true ∧
      a.toNat % 2 ^ j = 0 := by
  have hjb := BitVec.getLsbD_true_ctz_of_ne_zero h0
  have hlow : ∀ i, i < a.ctz.toNat → a.getLsbD i = false := fun _ => BitVec.getLsbD_false_of_lt_ctz
  have hj := BitVec.lt_of_getLsbD hjb
  refine ⟨_, hj, ?_, ?_, ?_⟩
  · rw [alignment_eq_twoPow a _ hj hjb hlow, BitVec.toNat_twoPow]
    apply Nat.mod_eq_of_lt
    exact Nat.pow_lt_pow_right (by decide) hj
  · rw [BitVec.testBit_toNat]; exact hjb
  · apply Nat.eq_of_testBit_eq
    intro i
    rw [Nat.testBit_mod_two_pow, Nat.zero_testBit, BitVec.testBit_toNat]
    by_cases hi : i < a.ctz.toNat
    · simp [hlow i hi]
    · simp [hi]

theorem alignment_zero : alignment 0 = 0 := by decide

theorem alignment_ge (a : BitVec 64) (k : Nat) (h0 : a ≠ 0) (h : a.toNat % 2 ^ k = 0) :
    2 ^ k ≤ (alignment a).toNat := by
  obtain ⟨j, _, hal, hbit, _⟩ := alignment_spec a h0
  rw [hal]
  refine Nat.pow_le_pow_right (by decide) (Nat.le_of_not_lt fun hlt => ?_)
  have := Nat.testBit_mod_two_pow a.toNat k j
  rw [h, Nat.zero_testBit, hbit] at this
  simp [hlt] at this

theorem alignment_dvd (a : BitVec 64) : (alignment a).toNat ∣ a.toNat := by
  by_cases h0 : a = 0
  · subst h0; rw [alignment_zero]; exact Nat.dvd_refl _
  · obtain ⟨j, _, hal, _, hmod⟩ := alignment_spec a h0
    rw [hal]; exact Nat.dvd_of_mod_eq_zero hmod

theorem alignment_pos (a : BitVec 64) (h0 : a ≠ 0) : 1 ≤ (alignment a).toNat :=
  alignment_ge a 0 h0 (Nat.mod_one _)

theorem alignment_le_dvd (a : BitVec 64) (i : Nat) (h0 : a ≠ 0)
    (hle : 2 ^ i ≤ (alignment a).toNat) : a.toNat % 2 ^ i = 0 := by
  obtain ⟨j, _, hal, _, _⟩ := alignment_spec a h0
  have hij : i ≤ j := (Nat.pow_le_pow_iff_right (by decide)).1 (hal ▸ hle)
  exact Nat.mod_eq_zero_of_dvd (Nat.dvd_trans (Nat.pow_dvd_pow 2 hij) (hal ▸ alignment_dvd a))

/-! ### the copy loop -/

/-- `n` accesses of width `w` at offsets `off, off+w, …` -/
def stride (w off n : Nat) : List Access :=
  (List.range n).map (fun i => (⟨w, off + i * w⟩ : Access))

theorem stride_zero (w off : Nat) : stride w off 0 = [] := rfl

theorem stride_succ (w off n : Nat) :
    stride w off (n + 1) = ⟨w, off⟩ :: stride w (off + w) n := by
  simp only [stride, List.range_succ_eq_map, List.map_cons, List.map_map]
  congr 1
  · simp
  · apply List.map_congr_left
    intro i _
    simp [Nat.add_mul]; omega

theorem copyLoop_eq (w left off : Nat) (hw : 0 < w) :
    copyLoop w left off = (stride w off (left / w), left % w, off + left / w * w) := by
  induction left using Nat.strongRecOn generalizing off with
  | _ left ih =>
    rw [copyLoop]
    by_cases h : left ≥ w
    · rw [dif_pos ⟨h, hw⟩, ih (left - w) (by omega) (off + w), Nat.div_eq_sub_div hw h,
        Nat.mod_eq_sub_mod h, stride_succ, Nat.succ_mul]
      simp only [Nat.add_assoc, Nat.add_comm w]
    · have hlt : left < w := by omega
      rw [dif_neg (fun hh => h hh.1), Nat.div_eq_of_lt hlt, Nat.mod_eq_of_lt hlt, Nat.zero_mul]
      rfl

theorem copyPass_eq (a w left off : Nat) (hw : 0 < w) :
    copyPass a w left off =
      if a < w then ([], left, off)
      else (stride w off (left / w), left % w, off + left / w * w) := by
  unfold copyPass
  rw [copyLoop_eq w left off hw]

/-! ### tiling -/

def widthSum (l : List Access) : Nat := (l.map (·.width)).sum

@[simp] theorem widthSum_nil : widthSum [] = 0 := rfl
@[simp] theorem widthSum_cons (a : Access) (l : List Access) :
    widthSum (a :: l) = a.width + widthSum l := by simp [widthSum]
@[simp] theorem widthSum_append (l₁ l₂ : List Access) :
    widthSum (l₁ ++ l₂) = widthSum l₁ + widthSum l₂ := by simp [widthSum]

end CopyLemmas

-- outside `CopyLemmas`: its name is `VmMem.tiles`
/-- `tiles l o`: the accesses of `l`, in order, tile a contiguous range starting at
    offset `o` — each access starts exactly where the previous one ended (no gap, no
    overlap, increasing order). -/
def tiles : List Access → Nat → Prop
  | [], _ => True
  | a :: as, o => a.off = o ∧ tiles as (o + a.width)

namespace CopyLemmas

@[simp] theorem tiles_nil (o : Nat) : tiles [] o = True := rfl
@[simp] theorem tiles_cons (a : Access) (l : List Access) (o : Nat) :
    tiles (a :: l) o = (a.off = o ∧ tiles l (o + a.width)) := rfl

theorem tiles_append (l₁ l₂ : List Access) (o : Nat) :
    tiles (l₁ ++ l₂) o ↔ tiles l₁ o ∧ tiles l₂ (o + widthSum l₁) := by
  induction l₁ generalizing o with
  | nil => simp
  | cons a l ih => simp [ih, Nat.add_assoc, and_assoc]

theorem widthSum_stride (w off n : Nat) : widthSum (stride w off n) = n * w := by
  induction n generalizing off with
  | zero => simp [stride_zero]
  | succ n ih => rw [stride_succ, widthSum_cons, ih, Nat.add_mul]; simp; omega

theorem tiles_stride (w off n : Nat) : tiles (stride w off n) off := by
  induction n generalizing off with
  | zero => simp [stride_zero]
  | succ n ih => rw [stride_succ]; exact ⟨rfl, ih (off + w)⟩

theorem mem_stride {w off n : Nat} {x : Access} (h : x ∈ stride w off n) :
    x.width = w ∧ ∃ i, i < n ∧ x.off = off + i * w := by
  simp only [stride, List.mem_map, List.mem_range] at h
  obtain ⟨i, hi, rfl⟩ := h
  exact ⟨rfl, i, hi, rfl⟩

/-! ### passes -/

theorem copyPass_stride (a w left off : Nat) (hw : 0 < w) :
    ∃ n, copyPass a w left off = (stride w off n, left - n * w, off + n * w) ∧ n * w ≤ left ∧
      (n ≠ 0 → w ≤ a) ∧ (w ≤ a → left - n * w = left % w) := by
  rw [copyPass_eq a w left off hw]
  by_cases h : a < w
  · rw [if_pos h]
    exact ⟨0, by rw [stride_zero, Nat.zero_mul, Nat.sub_zero, Nat.add_zero], by omega,
      fun h0 => absurd rfl h0, fun hle => by omega⟩
  · rw [if_neg h, Nat.mod_eq_sub_div_mul]
    exact ⟨left / w, rfl, Nat.div_mul_le_self left w, fun _ => Nat.le_of_not_lt h, fun _ => rfl⟩

/-- the passes of widths `ws`, in order, from `left` bytes to go at offset `off`;
    `copyPlan` is `passes align [8, 4, 2, 1] total 0` -/
def passes (a : Nat) : List Nat → Nat → Nat → List Access
  | [], _, _ => []
  | w :: ws, left, off =>
    (copyPass a w left off).1 ++ passes a ws (copyPass a w left off).2.1 (copyPass a w left off).2.2

theorem copyPlan_eq_passes (src dst : BitVec 64) (total : Nat) :
    copyPlan src dst total
      = passes (min (alignment src).toNat (alignment dst).toNat) [8, 4, 2, 1] total 0 := by
  simp only [copyPlan, passes, List.append_nil, List.append_assoc]

/-- For widths each dividing the ones before it and the starting offset: the accesses tile a
    range from `off`, each of a width `≤ a` that divides its offset. -/
theorem passes_spec (a : Nat) (ws : List Nat) (hpos : ∀ w ∈ ws, 0 < w)
    (hchain : ws.Pairwise (fun u v => v ∣ u)) (left off : Nat) (hoff : ∀ w ∈ ws, w ∣ off) :
    widthSum (passes a ws left off) ≤ left ∧
    tiles (passes a ws left off) off ∧
    (∀ x ∈ passes a ws left off, x.width ∈ ws ∧ x.width ≤ a ∧ x.width ∣ x.off) ∧
    (∀ w ∈ ws, w ≤ a → left - widthSum (passes a ws left off) < w) := by
  induction ws generalizing left off with
  | nil => simp [passes]
  | cons w ws ih =>
    have hw : 0 < w := hpos w (List.mem_cons_self ..)
    obtain ⟨hdiv, hchain'⟩ := List.pairwise_cons.1 hchain
    obtain ⟨n, hp, hle, hn, hrem⟩ := copyPass_stride a w left off hw
    have hwoff : w ∣ off := hoff w (List.mem_cons_self ..)
    -- later widths divide `w`, hence the offset `off + n * w` the rest starts from
    obtain ⟨i1, i2, i3, i4⟩ := ih (fun v hv => hpos v (List.mem_cons_of_mem _ hv)) hchain'
      (left - n * w) (off + n * w)
      (fun v hv => Nat.dvd_add (hoff v (List.mem_cons_of_mem _ hv))
        (Nat.dvd_trans (hdiv v hv) (Nat.dvd_mul_left w n)))
    simp only [passes, hp, widthSum_append, widthSum_stride, tiles_append]
    refine ⟨by omega, ⟨tiles_stride _ _ _, i2⟩, ?_, ?_⟩
    · intro x hx
      rcases List.mem_append.1 hx with hx | hx
      · obtain ⟨hxw, i, hi, hxo⟩ := mem_stride hx
        rw [hxw, hxo]
        exact ⟨List.mem_cons_self .., hn (Nat.ne_zero_of_lt hi), Nat.dvd_add hwoff (Nat.dvd_mul_left w i)⟩
      · obtain ⟨h1, h2, h3⟩ := i3 x hx
        exact ⟨List.mem_cons_of_mem _ h1, h2, h3⟩
    · intro v hv hva
      rcases List.mem_cons.1 hv with rfl | hv
      · exact Nat.lt_of_le_of_lt (Nat.sub_le_sub_left (Nat.le_add_right ..) left)
          (hrem hva ▸ Nat.mod_lt left hw)
      · have := i4 v hv hva
        omega

theorem copyPass_skip (a w left off : Nat) (h : a < w ∨ left < w) :
    copyPass a w left off = ([], left, off) := by
  unfold copyPass
  split
  · rfl
  · next ha =>
    rw [copyLoop, dif_neg fun hc => absurd hc.1 (Nat.not_le.2 (h.resolve_left ha))]

theorem passes_skip (a : Nat) (pre rest : List Nat) (left off : Nat)
    (h : ∀ v ∈ pre, a < v ∨ left < v) :
    passes a (pre ++ rest) left off = passes a rest left off := by
  induction pre with
  | nil => rfl
  | cons v pre ih =>
    rw [List.cons_append, passes, copyPass_skip a v left off (h v (List.mem_cons_self ..))]
    exact ih fun u hu => h u (List.mem_cons_of_mem _ hu)

theorem passes_zero (a : Nat) (ws : List Nat) (hpos : ∀ w ∈ ws, 0 < w) (off : Nat) :
    passes a ws 0 off = [] := by
  rw [← List.append_nil ws]
  exact passes_skip a ws [] 0 off fun v hv => Or.inr (hpos v hv)

theorem passes_single (a w : Nat) (pre post : List Nat) (off : Nat) (hpre : ∀ v ∈ pre, w < v)
    (hw : 0 < w) (hwa : w ≤ a) (hpost : ∀ v ∈ post, 0 < v) :
    passes a (pre ++ w :: post) w off = [⟨w, off⟩] := by
  have hp := copyPass_eq a w w off hw
  rw [if_neg (Nat.not_lt.2 hwa), Nat.div_self hw, Nat.mod_self] at hp
  rw [passes_skip a pre _ w off fun v hv => Or.inr (hpre v hv), passes, hp,
    passes_zero a post hpost]
  simp [stride]

end CopyLemmas
end VmMem
