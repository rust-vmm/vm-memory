/-
  VmMem.Lemmas.LoopLemmas — the `try_access` loop, once, for any callback, over layouts `WFT`.

  The loop as equations (`loop_hole`, `loop_at`, `loop_chunk`, with `next` for what the Rust `match` does with the
  callback's answer); an induction rule for any callback (`loop_inv`); and, for callbacks that never report more than
  they were asked for, the rule that the loop walks the run of mapped addresses (`runLen`) with an invariant indexed
  by the bytes done (`loop_run`; `loop_full` when the callback always handles the whole chunk).
-/
import VmMem.Lemmas.GuestLemmas
namespace VmMem
namespace FlatLemmas

/-- length of the longest run of consecutively mapped addresses starting at `a`, capped at `cap` -/
def runLen (m : GMem) (a : Nat) : Nat → Nat
  | 0 => 0
  | cap + 1 => if mapped m a then 1 + runLen m (a + 1) cap else 0

theorem runLen_congr {m m' : GMem} (h : ∀ a, mapped m' a ↔ mapped m a) (a cap : Nat) :
    runLen m' a cap = runLen m a cap := by
  induction cap generalizing a with
  | zero => rfl
  | succ c ih =>
    unfold runLen
    by_cases hm : mapped m a
    · rw [if_pos hm, if_pos ((h a).2 hm), ih]
    · rw [if_neg hm, if_neg (fun x => hm ((h a).1 x))]

theorem runLen_le (m : GMem) (a cap : Nat) : runLen m a cap ≤ cap := by
  induction cap generalizing a with
  | zero => exact Nat.le_refl _
  | succ c ih =>
    unfold runLen
    split
    · have := ih (a + 1); omega
    · omega

theorem runLen_unmapped {m : GMem} {a : Nat} (h : ¬ mapped m a) (cap : Nat) : runLen m a cap = 0 := by
  cases cap with
  | zero => rfl
  | succ c => unfold runLen; rw [if_neg h]

theorem runLen_pos {m : GMem} {a : Nat} (h : mapped m a) {cap : Nat} (hc : 0 < cap) :
    0 < runLen m a cap := by
  cases cap with
  | zero => omega
  | succ c => unfold runLen; rw [if_pos h]; omega

theorem runLen_eq_zero_iff (m : GMem) (a : Nat) {cap : Nat} (hc : 0 < cap) :
    runLen m a cap = 0 ↔ ¬ mapped m a := by
  constructor
  · intro h hm; have := runLen_pos hm hc; omega
  · intro h; exact runLen_unmapped h cap

theorem runLen_mapped (m : GMem) (a cap i : Nat) (hi : i < runLen m a cap) : mapped m (a + i) := by
  induction cap generalizing a i with
  | zero => simp [runLen] at hi
  | succ c ih =>
    unfold runLen at hi
    by_cases hm : mapped m a
    · rw [if_pos hm] at hi
      cases i with
      | zero => exact hm
      | succ j =>
        have := ih (a + 1) j (by omega)
        have e : a + 1 + j = a + (j + 1) := by omega
        rwa [e] at this
    · rw [if_neg hm] at hi; omega

theorem runLen_stop (m : GMem) (a cap : Nat) (h : runLen m a cap < cap) :
    ¬ mapped m (a + runLen m a cap) := by
  induction cap generalizing a with
  | zero => omega
  | succ c ih =>
    unfold runLen at h ⊢
    by_cases hm : mapped m a
    · rw [if_pos hm] at h ⊢
      have := ih (a + 1) (by omega)
      have e : a + 1 + runLen m (a + 1) c = a + (1 + runLen m (a + 1) c) := by omega
      rwa [e] at this
    · rw [if_neg hm]; exact hm

theorem runLen_full_iff (m : GMem) (a cap : Nat) :
    runLen m a cap = cap ↔ ∀ i, i < cap → mapped m (a + i) :=
  ⟨fun h i hi => runLen_mapped m a cap i (h.symm ▸ hi),
   fun h => Nat.le_antisymm (runLen_le m a cap)
     (Nat.le_of_not_lt fun hlt => runLen_stop m a cap hlt (h _ hlt))⟩

theorem runLen_of_le (m : GMem) (a cap k : Nat) (hk : k ≤ runLen m a cap) : runLen m a k = k := by
  rw [runLen_full_iff]
  intro i hi
  exact runLen_mapped m a cap i (by omega)

end FlatLemmas

namespace LoopLemmas
open GuestLemmas FlatLemmas

inductive Next (σ : Type)
  | done (out : GMem × σ × Res Nat)
  | more (m : GMem) (st : σ) (cur total : Nat)

/-- what `try_access` does with the callback's answer at `(cur, total)`: `Ok(0)` ends the access, `Ok(n)` is added to
    `total` (`checked_add`, compared with `count`) and to `cur` (`overflowing_add`), an error is passed on -/
def next {σ : Type} (count cur total : Nat) : GMem × σ × Res Nat → Next σ
  | (m, st, .ok 0) => .done (m, st, .ok total)
  | (m, st, .ok (k + 1)) =>
    if total + (k + 1) < U then
      if total + (k + 1) < count then
        if (overflowingAdd cur (k + 1)).2 = false then .more m st (overflowingAdd cur (k + 1)).1 (total + (k + 1))
        else if (overflowingAdd cur (k + 1)).1 = 0 then .done (m, st, .ok (total + (k + 1)))
        else .done (m, st, .err .guestAddressOverflow)
      else if total + (k + 1) = count then .done (m, st, .ok (total + (k + 1)))
      else .done (m, st, .err .callbackOutOfRange)
    else .done (m, st, .err .callbackOutOfRange)
  | (m, st, .err e) => .done (m, st, .err e)
  | (m, st, .panic) => .done (m, st, .panic)

variable {σ : Type} (f : GMem → σ → Nat → Nat → Nat → Nat → GMem × σ × Res Nat)

theorem loop_hole {m : GMem} (h : WFT m) (count addr : Nat) (st : σ) {cur : Nat} (total : Nat)
    (hun : ¬ mapped m cur) :
    GMem.tryAccessLoop f count addr m st cur total =
      (m, st, if total = 0 then .err (.invalidGuestAddress addr) else .ok total) := by
  rw [GMem.tryAccessLoop, findRegion_of_unmapped h hun]
  simp only
  split <;> rfl

/-- one turn of the loop at an address that `find_region` resolves, for ANY layout -/
theorem loop_at (count addr : Nat) (m : GMem) (st : σ) {cur total idx start : Nat} {region : Region}
    (hfind : m.findRegion cur = .ok (some idx)) (hreg : m[idx]? = some region)
    (hstart : region.toRegionAddr cur = some start) (hpre : ¬ (region.len < start ∨ count < total)) :
    GMem.tryAccessLoop f count addr m st cur total =
      match next count cur total (f m st total (min (region.len - start) (count - total)) start idx) with
      | .done out => out
      | .more m1 st1 c t => GMem.tryAccessLoop f count addr m1 st1 c t := by
  rw [GMem.tryAccessLoop, hfind]
  simp only [hreg, hstart]
  rw [if_neg hpre]
  rcases f m st total (min (region.len - start) (count - total)) start idx with ⟨m1, st1, res⟩
  cases res with
  | err e => rfl
  | panic => rfl
  | ok n =>
    cases n with
    | zero => rfl
    | succ k =>
      simp only [next]
      by_cases hU : total + (k + 1) < U
      · rw [if_pos hU, if_pos hU]
        by_cases hlt : total + (k + 1) < count
        · rw [if_pos hlt, if_pos hlt]
          by_cases hov : (overflowingAdd cur (k + 1)).2 = false
          · rw [if_pos hov, if_pos hov]
          · rw [if_neg hov, if_neg hov]
            by_cases h0 : (overflowingAdd cur (k + 1)).1 = 0
            · rw [if_pos h0, if_pos h0]
            · rw [if_neg h0, if_neg h0]
        · rw [if_neg hlt, if_neg hlt]
          by_cases he : total + (k + 1) = count
          · rw [if_pos he, if_pos he]
          · rw [if_neg he, if_neg he]
      · rw [if_neg hU, if_neg hU]

/-- inside region `i` of a `WFT` layout none of the loop's own four panic sites is reached -/
theorem loop_chunk {m : GMem} (h : WFT m) (count addr : Nat) (st : σ) {cur total i : Nat} {r : Region}
    (hi : m[i]? = some r) (hin : r.start ≤ cur ∧ cur < r.start + r.len) (ht : total ≤ count) :
    GMem.tryAccessLoop f count addr m st cur total =
      match next count cur total (f m st total (min (r.len - (cur - r.start)) (count - total)) (cur - r.start) i) with
      | .done out => out
      | .more m1 st1 c t => GMem.tryAccessLoop f count addr m1 st1 c t :=
  loop_at f count addr m st (findRegion_of_getElem? h hi hin) hi (Region.toRegionAddr_eq hin) (by omega)

theorem next_spec (count cur total : Nat) (x : GMem × σ × Res Nat) :
    match next count cur total x with
    | .done out => out.1 = x.1 ∧ out.2.1 = x.2.1 ∧ (x.2.2 ≠ .panic → out.2.2 ≠ .panic)
    | .more m1 st1 _ t => m1 = x.1 ∧ st1 = x.2.1 ∧ total < t ∧ t < count := by
  obtain ⟨m, st, res⟩ := x
  cases res with
  | err e => exact ⟨rfl, rfl, fun _ => by simp⟩
  | panic => exact ⟨rfl, rfl, fun h => h⟩
  | ok n =>
    cases n with
    | zero => exact ⟨rfl, rfl, fun _ => by simp⟩
    | succ k =>
      simp only [next]
      by_cases hU : total + (k + 1) < U
      · rw [if_pos hU]
        by_cases hlt : total + (k + 1) < count
        · rw [if_pos hlt]
          by_cases hov : (overflowingAdd cur (k + 1)).2 = false
          · rw [if_pos hov]; exact ⟨rfl, rfl, by omega, hlt⟩
          · rw [if_neg hov]
            by_cases h0 : (overflowingAdd cur (k + 1)).1 = 0
            · rw [if_pos h0]; exact ⟨rfl, rfl, fun _ => by simp⟩
            · rw [if_neg h0]; exact ⟨rfl, rfl, fun _ => by simp⟩
        · rw [if_neg hlt]
          by_cases he : total + (k + 1) = count
          · rw [if_pos he]; exact ⟨rfl, rfl, fun _ => by simp⟩
          · rw [if_neg he]; exact ⟨rfl, rfl, fun _ => by simp⟩
      · rw [if_neg hU]; exact ⟨rfl, rfl, fun _ => by simp⟩

theorem overflowingAdd_of_lt {a b : Nat} (h : a + b < U) : overflowingAdd a b = (a + b, false) := by
  unfold overflowingAdd
  rw [Nat.mod_eq_of_lt h, decide_eq_false (Nat.not_le.2 h)]

theorem overflowingAdd_top {a b : Nat} (h : a + b = U) : overflowingAdd a b = (0, true) := by
  unfold overflowingAdd
  rw [h, Nat.mod_self, decide_eq_true (Nat.le_refl U)]

theorem next_ok {count cur total n : Nat} (hn : 0 < n) (ht : total + n ≤ count) (hc : count < U)
    (hcur : cur + n ≤ U) (m1 : GMem) (st1 : σ) :
    next count cur total (m1, st1, .ok n) =
      if total + n < count then
        if cur + n = U then .done (m1, st1, .ok (total + n)) else .more m1 st1 (cur + n) (total + n)
      else .done (m1, st1, .ok count) := by
  obtain ⟨k, rfl⟩ : ∃ k, n = k + 1 := ⟨n - 1, by omega⟩
  simp only [next]
  rw [if_pos (Nat.lt_of_le_of_lt ht hc)]
  by_cases hlt : total + (k + 1) < count
  · rw [if_pos hlt, if_pos hlt]
    by_cases htop : cur + (k + 1) = U
    · rw [if_pos htop, overflowingAdd_top htop]
      rfl
    · rw [if_neg htop, overflowingAdd_of_lt (Nat.lt_of_le_of_ne hcur htop)]
      rfl
  · have he : total + (k + 1) = count := Nat.le_antisymm ht (Nat.le_of_not_lt hlt)
    rw [if_neg hlt, if_neg hlt, if_pos he, he]

/-- **The loop, once.**  `Inv` (which entails `WFT`) holds at every `(m, st, cur, total)` the loop reaches, `Post` of its
    outcome.  Two obligations: a hole, and a region chunk — there whatever `next` makes of the callback's answer is
    either an outcome (`Post`) or the next state (`Inv`). -/
theorem loop_inv (count addr : Nat) (Inv : GMem → σ → Nat → Nat → Prop)
    (Post : GMem × σ × Res Nat → Prop)
    (hwf : ∀ {m st cur total}, Inv m st cur total → WFT m)
    (hhole : ∀ {m st cur total}, Inv m st cur total → total < count → ¬ mapped m cur →
      Post (m, st, if total = 0 then .err (.invalidGuestAddress addr) else .ok total))
    (hstep : ∀ {m st cur total i r}, Inv m st cur total → total < count → m[i]? = some r →
      r.start ≤ cur ∧ cur < r.start + r.len →
      match next count cur total
          (f m st total (min (r.len - (cur - r.start)) (count - total)) (cur - r.start) i) with
      | .done out => Post out
      | .more m1 st1 c t => Inv m1 st1 c t)
    {m : GMem} {st : σ} {cur total : Nat} (h0 : Inv m st cur total) (ht : total < count) :
    Post (GMem.tryAccessLoop f count addr m st cur total) := by
  induction hn : count - total using Nat.strongRecOn generalizing m st cur total with
  | _ n ih =>
    rcases mapped_or_not m cur with ⟨i, r, hi, hin⟩ | hun
    · have hs := hstep h0 ht hi hin
      have hnx := next_spec count cur total
        (f m st total (min (r.len - (cur - r.start)) (count - total)) (cur - r.start) i)
      rw [loop_chunk f (hwf h0) count addr st hi hin (Nat.le_of_lt ht)]
      generalize next count cur total _ = nx at hs hnx ⊢
      cases nx with
      | done out => exact hs
      | more m1 st1 c t => exact ih _ (by omega) hs hnx.2.2.2 rfl
    · rw [loop_hole f (hwf h0) count addr st total hun]
      exact hhole h0 ht hun

/-! ### callbacks that never report more than they were asked for: the loop walks the run -/

/-- `n` bytes from `c` on, within the rest of the region `[s, s + l)`, end inside it -/
theorem off_add_le {s l c n : Nat} (hin : s ≤ c ∧ c < s + l) (hn : n ≤ l - (c - s)) : c - s + n ≤ l :=
  (Nat.le_sub_iff_add_le' (Nat.le_of_lt (Nat.sub_lt_left_of_lt_add hin.1 hin.2))).1 hn

theorem chunk_pos {s l c rest : Nat} (hin : s ≤ c ∧ c < s + l) (hrest : 0 < rest) :
    0 < min (l - (c - s)) rest :=
  Nat.lt_min.2 ⟨Nat.sub_pos_of_lt (Nat.sub_lt_left_of_lt_add hin.1 hin.2), hrest⟩

theorem add_le_end {s l c n : Nat} (hin : s ≤ c ∧ c < s + l) (hn : n ≤ l - (c - s)) : c + n ≤ s + l := by
  rw [← Nat.add_sub_cancel' hin.1, Nat.add_assoc]
  exact Nat.add_le_add_left (off_add_le hin hn) s

/-- what the callback, asked for `len` bytes with `total` done, may answer (for `loop_run`): `Ok(0)` and errors end the
    access and need the final condition; `Ok(n)`, `0 < n ≤ len`, needs the invariant `n` bytes further on -/
inductive Step (Fin : GMem → σ → Res Nat → Prop) (Inv : Nat → GMem → σ → Prop) (total len : Nat) :
    GMem × σ × Res Nat → Prop
  | zero {m st} : Fin m st (.ok total) → Step Fin Inv total len (m, st, .ok 0)
  | ok {m st n} : 0 < n → n ≤ len → Inv n m st → Step Fin Inv total len (m, st, .ok n)
  | err {m st e} : Fin m st (.err e) → Step Fin Inv total len (m, st, .err e)
  | panic {m st} : Fin m st .panic → Step Fin Inv total len (m, st, .panic)

/-- **The loop walks the run.**  Started on `(m0, st0)` at `(cur, total)` (`Inv` entails `WFT` and the mapped set of
    `m0`), `Inv k` after `k` bytes; it ends in some `(m', st', res)` with `Fin m' st' res k` for some `k`.  Every exit that is
    not the callback's own (a hole, the count reached, the top of the address space) happens exactly when
    `k` is the run length, and is the single obligation `hend`; `hstep` is the callback at `cur + k` inside region `i`,
    asked for the rest of that region or of the count. -/
theorem loop_run {count : Nat} (hc : count < U) (addr : Nat) (m0 : GMem) (st0 : σ) (cur total : Nat)
    (ht : total < count) (Inv : Nat → GMem → σ → Prop) (Fin : GMem → σ → Res Nat → Nat → Prop)
    (hlay : ∀ {k m st}, Inv k m st → WFT m ∧ ∀ a, mapped m a ↔ mapped m0 a)
    (hend : ∀ {m st}, Inv (runLen m0 cur (count - total)) m st →
      Fin m st (if runLen m0 cur (count - total) = 0 ∧ total = 0 then .err (.invalidGuestAddress addr)
                else .ok (total + runLen m0 cur (count - total))) (runLen m0 cur (count - total)))
    (hstep : ∀ {k m st i r}, Inv k m st → m[i]? = some r →
      r.start ≤ cur + k ∧ cur + k < r.start + r.len → total + k < count →
      ∀ len, len = min (r.len - (cur + k - r.start)) (count - (total + k)) → 0 < len →
      k + len ≤ runLen m0 cur (count - total) →
      Step (fun m' st' res => ∃ k', Fin m' st' res k') (fun n => Inv (k + n)) (total + k) len
        (f m st (total + k) len (cur + k - r.start) i))
    (h0 : Inv 0 m0 st0) :
    ∃ m' st' res k, GMem.tryAccessLoop f count addr m0 st0 cur total = (m', st', res) ∧ Fin m' st' res k := by
  refine loop_inv f count addr
    (fun m st c t => ∃ k, c = cur + k ∧ t = total + k ∧ k ≤ runLen m0 cur (count - total) ∧ Inv k m st)
    (fun out => ∃ m' st' res k, out = (m', st', res) ∧ Fin m' st' res k)
    (fun ⟨_, _, _, _, h⟩ => (hlay h).1) ?_ ?_ ⟨0, rfl, rfl, Nat.zero_le _, h0⟩ ht
  · rintro m st _ _ ⟨k, rfl, rfl, hk, h⟩ htc hun
    have hrun : runLen m0 cur (count - total) = k :=
      Nat.le_antisymm (Nat.le_of_not_lt fun hlt => hun (((hlay h).2 _).2 (runLen_mapped m0 cur _ k hlt))) hk
    rw [← hrun] at h ⊢
    refine ⟨_, _, _, _, ?_, hend h⟩
    simp only [Nat.add_eq_zero_iff.trans And.comm]
  · rintro m st _ _ i r ⟨k, rfl, rfl, hk, h⟩ htc hi hin
    have hrl := (hlay h).1.getElem? hi
    generalize hlen : min (r.len - (cur + k - r.start)) (count - (total + k)) = len
    -- all that is needed of `len` (no `min`, no truncated subtraction)
    have hl : 0 < len ∧ cur + k + len ≤ r.start + r.len ∧ total + k + len ≤ count :=
      hlen ▸ ⟨chunk_pos hin (Nat.sub_pos_of_lt htc),
        add_le_end hin (Nat.min_le_left _ _), Nat.add_le_of_le_sub' (Nat.le_of_lt htc) (Nat.min_le_right _ _)⟩
    -- the run does not stop inside the chunk
    have hkl : k + len ≤ runLen m0 cur (count - total) := Nat.le_of_not_lt fun hlt =>
      runLen_stop m0 cur _ (Nat.lt_of_lt_of_le hlt (Nat.le_sub_of_add_le' (Nat.add_assoc _ _ _ ▸ hl.2.2)))
        (((hlay h).2 _).1 ⟨r, List.mem_of_getElem? hi, Nat.le_trans hin.1 (Nat.add_le_add_left hk cur),
          Nat.lt_of_lt_of_le (Nat.add_lt_add_left hlt cur) (Nat.add_assoc _ _ _ ▸ hl.2.1)⟩)
    have hs := hstep h hi hin htc len hlen.symm hl.1 hkl
    generalize f m st (total + k) len (cur + k - r.start) i = x at hs ⊢
    cases hs with
    | zero hp => exact hp.elim fun k' hp => ⟨_, _, _, k', rfl, hp⟩
    | err hp => exact hp.elim fun k' hp => ⟨_, _, _, k', rfl, hp⟩
    | panic hp => exact hp.elim fun k' hp => ⟨_, _, _, k', rfl, hp⟩
    | @ok m1 st1 n hn hnl hinv =>
      have hkn : k + n ≤ runLen m0 cur (count - total) := Nat.le_trans (Nat.add_le_add_left hnl k) hkl
      have htn : total + k + n ≤ count := Nat.le_trans (Nat.add_le_add_left hnl _) hl.2.2
      rw [next_ok hn htn hc (Nat.le_trans (Nat.add_le_add_left hnl _) (Nat.le_trans hl.2.1 hrl.2))]
      have hend' : runLen m0 cur (count - total) = k + n →
          ∃ m' st' res k', (m1, st1, Res.ok (total + k + n)) = (m', st', res) ∧ Fin m' st' res k' := by
        intro hrun
        rw [← hrun] at hinv
        have := hend hinv
        rw [if_neg fun hz => Nat.ne_of_gt (Nat.add_pos_right k hn) (hrun.symm.trans hz.1), hrun,
          ← Nat.add_assoc] at this
        exact ⟨_, _, _, _, rfl, this⟩
      by_cases hlt : total + k + n < count
      · rw [if_pos hlt]
        by_cases htop : cur + k + n = U
        · rw [if_pos htop]
          exact hend' (Nat.le_antisymm (Nat.le_of_not_lt fun hlt => Nat.ne_of_lt
            ((hlay hinv).1.mapped_lt_U (((hlay hinv).2 _).2 (runLen_mapped m0 cur _ (k + n) hlt)))
            ((Nat.add_assoc _ _ _).symm.trans htop)) hkn)
        · rw [if_neg htop]
          exact ⟨k + n, Nat.add_assoc _ _ _, Nat.add_assoc _ _ _, hkn, hinv⟩
      · rw [if_neg hlt]
        have hcn : total + k + n = count := Nat.le_antisymm htn (Nat.le_of_not_lt hlt)
        rw [← hcn]
        exact hend' (Nat.le_antisymm (Nat.le_trans (runLen_le m0 cur _)
          (Nat.sub_le_iff_le_add'.2 (Nat.le_of_eq (hcn.symm.trans (Nat.add_assoc _ _ _))))) hkn)

/-- **Closed form** for a callback that always handles the whole chunk (`check_range`, `write`, `read`): the loop ends
    with the invariant at the run length and reports `total + run` (`InvalidGuestAddress` if that is nothing at all) -/
theorem loop_full {count : Nat} (hc : count < U) (addr : Nat) (m0 : GMem) (st0 : σ) (cur total : Nat)
    (ht : total < count) (Inv : Nat → GMem → σ → Prop)
    (hlay : ∀ {k m st}, Inv k m st → WFT m ∧ ∀ a, mapped m a ↔ mapped m0 a)
    (hstep : ∀ {k m st i r}, Inv k m st → m[i]? = some r →
      r.start ≤ cur + k ∧ cur + k < r.start + r.len → total + k < count →
      ∀ len, len = min (r.len - (cur + k - r.start)) (count - (total + k)) → 0 < len →
      k + len ≤ runLen m0 cur (count - total) →
      ∃ m1 st1, f m st (total + k) len (cur + k - r.start) i = (m1, st1, .ok len) ∧ Inv (k + len) m1 st1)
    (h0 : Inv 0 m0 st0) :
    ∃ m' st', GMem.tryAccessLoop f count addr m0 st0 cur total =
        (m', st', if runLen m0 cur (count - total) = 0 ∧ total = 0 then .err (.invalidGuestAddress addr)
                  else .ok (total + runLen m0 cur (count - total))) ∧
      Inv (runLen m0 cur (count - total)) m' st' := by
  obtain ⟨m', st', _, _, e, rfl, h⟩ := loop_run f hc addr m0 st0 cur total ht Inv
    (fun m' st' res _ => res = _ ∧ Inv (runLen m0 cur (count - total)) m' st')
    hlay (fun h => ⟨rfl, h⟩) (fun h hi hin htc len hlen hpos hkl => by
      obtain ⟨m1, st1, hf, hinv⟩ := hstep h hi hin htc len hlen hpos hkl
      rw [hf]
      exact .ok hpos (Nat.le_refl _) hinv) h0
  exact ⟨m', st', e, h⟩

/-- `check_range(base, len)`: is the run from `base` as long as `len`?  (Its callback leaves everything alone.) -/
theorem checkRange_eq_runLen {m : GMem} (h : WFT m) (base : Nat) {len : Nat} (hl : len < U) :
    m.checkRange base len = .ok (runLen m base len == len) := by
  rcases Nat.eq_zero_or_pos len with rfl | hpos
  · exact checkRange_zero_eq m base
  · obtain ⟨_, _, e, rfl⟩ := loop_full trivCb hl base m () base 0 hpos (fun _ m' _ => m = m')
      (by rintro _ _ _ rfl; exact ⟨h, fun _ => Iff.rfl⟩)
      (by rintro _ _ _ _ _ rfl _ _ _ _ _ _ _; exact ⟨_, _, rfl, rfl⟩) rfl
    rw [checkRange_eq m base len hpos, e, Nat.sub_zero, Nat.zero_add]
    by_cases hz : runLen m base len = 0 ∧ 0 = 0
    · rw [if_pos hz, hz.1]
      exact congrArg Res.ok (by simp; omega)
    · rw [if_neg hz]

end LoopLemmas
end VmMem
