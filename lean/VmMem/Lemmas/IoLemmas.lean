/-
  VmMem.Lemmas.IoLemmas — `VmMem.Model.Io` characterised: one stream call as a function of
  `xfer (hd script)`, `retry_eintr!` as one call on the script without its leading `eintr`
  entries, the default exact loops as one loop with one rule, the four stream forms of
  `Bytes<usize> for VolatileSlice` as the call they make on which window.

  Standing hypotheses of the positive statements: `BmInv m` (dirty marking cannot panic) and
  `InB m s` (the target slice lies inside the container).  The data-level facts (`splice`, the
  raw accessors, `copy_to_volatile_slice`) are those of `VmMem.Lemmas.DataLemmas`.
  Facts about `Reader.f` / `Writer.f` stand in the model's namespaces `Reader` / `Writer`.
-/
import VmMem.Model.Io
import VmMem.Lemmas.VolatileLemmas
import VmMem.Lemmas.DataLemmas
import VmMem.Props.C09
namespace VmMem
namespace IoLemmas
open VolatileLemmas

/-! `splice`, `BmInv` and `InB m s` unfold to `DataLemmas.splice`, `DataLemmas.BmInv` and
    `DataLemmas.Win m s.addr s.size`: the lemmas of `DataLemmas` apply to them as they are. -/

def splice (l : List UInt8) (o : Nat) (d : List UInt8) : List UInt8 :=
  l.take o ++ d ++ l.drop (o + d.length)

theorem spliceAt_eq_splice (l : List UInt8) (o : Nat) (d : List UInt8) :
    spliceAt l o d = splice l o d := rfl

def BmInv (m : Mem) : Prop := ∀ b, m.bm = some b → C09.Inv b
def InB (m : Mem) (s : VSlice) : Prop :=
  m.base ≤ s.addr ∧ s.addr + s.size ≤ m.base + m.bytes.length

theorem InB.window {m : Mem} {s : VSlice} (h : InB m s) {a c : Nat} (hac : a + c ≤ s.size)
    (b : Nat) : InB m { addr := s.addr + a, size := c, bmBase := b } := DataLemmas.Win.sub h hac

/-- what `offset` / `subslice` hand out lies inside whatever the slice lies inside -/
theorem InB.offset {m : Mem} {s s' : VSlice} {n : Nat} (h : InB m s) (hs : s.offset n = .ok s') :
    InB m s' := by
  obtain ⟨⟨_, hn⟩, rfl⟩ := checked_eq_ok.1 (offset_checked s n ▸ hs)
  exact h.window (Nat.le_of_eq (Nat.add_sub_cancel' hn)) _

theorem InB.subslice {m : Mem} {s s' : VSlice} {off cnt : Nat} (h : InB m s)
    (hs : s.subslice off cnt = .ok s') : InB m s' := by
  obtain ⟨⟨_, hn⟩, rfl⟩ := checked_eq_ok.1 (subslice_checked s off cnt ▸ hs)
  exact h.window hn _

theorem InB.fits {m : Mem} {s : VSlice} (h : InB m s) {k : Nat} (hk : k ≤ s.size) :
    s.addr - m.base + k ≤ m.bytes.length := by
  unfold InB at h; omega

theorem InB.lt_U {m : Mem} {s : VSlice} (h : InB m s) (hU : m.base + m.bytes.length < U)
    {a : Nat} (ha : a ≤ s.size) : s.addr + a < U ∧ a < U := by
  unfold InB at h; omega

/-! ### what the script prescribes for the next call -/

/-- behaviour of the next call: head of the script, `full` when exhausted -/
def hd (σ : List Beh) : Beh := match σ with | [] => .full | b :: _ => b

/-- number of bytes a non-failing behaviour moves into a buffer of `size` bytes when
    `avail` bytes are available; `none` for the failing behaviours -/
def xfer (b : Beh) (size avail : Nat) : Option Nat :=
  match b with
  | .full => some (min size avail)
  | .short k => some (min (min size avail) k)
  | .zero => some 0
  | .eintr => none
  | .fail => none

def errKind (b : Beh) : Nat := match b with | .eintr => IoKind.interrupted | _ => IoKind.other

theorem errKind_cases (b : Beh) : errKind b = IoKind.interrupted ∨ errKind b = IoKind.other := by
  cases b <;> simp [errKind]

theorem xfer_le {b : Beh} {size avail n : Nat} (h : xfer b size avail = some n) :
    n ≤ size ∧ n ≤ avail := by
  cases b <;> simp only [xfer, Option.some.injEq, reduceCtorEq] at h <;> subst h
  · exact ⟨Nat.min_le_left _ _, Nat.min_le_right _ _⟩
  · exact ⟨Nat.le_trans (Nat.min_le_left _ _) (Nat.min_le_left _ _),
      Nat.le_trans (Nat.min_le_left _ _) (Nat.min_le_right _ _)⟩
  · exact ⟨Nat.zero_le _, Nat.zero_le _⟩

theorem errKind_eq_interrupted {b : Beh} {size avail : Nat} (h : xfer b size avail = none) :
    errKind b = IoKind.interrupted ↔ b = .eintr := by
  cases b <;> simp [xfer, errKind, IoKind.other, IoKind.interrupted] at h ⊢

theorem hd_fail {σ : List Beh} {size avail : Nat} (h : xfer (hd σ) size avail = none)
    (hne : hd σ ≠ .eintr) : hd σ = .fail := by
  cases hb : hd σ <;> simp [hb, xfer] at h hne ⊢

theorem hd_dropWhile (σ : List Beh) : hd (σ.dropWhile (· = .eintr)) ≠ .eintr := by
  induction σ with
  | nil => simp [hd]
  | cons b rest ih =>
    by_cases hb : b = .eintr
    · simpa [List.dropWhile, hb] using ih
    · simp [List.dropWhile, hb, hd]

/-! ### the default exact loops are one loop -/

/-- `let mut partial = buf.offset(0)?; while !partial.is_empty() { match call(partial) {
    Ok(0) => return Err(e0), Ok(n) => partial = partial.offset(n)?, Err(e) => return Err(e) } }`
    over an abstract state: the shape `Reader.readExactLoop` and `Writer.writeAllLoop` share -/
def exactLoop {σ : Type} (call : σ → VSlice → σ × Res Nat) (e0 : Err) :
    Nat → σ → VSlice → σ × Res Unit
  | 0, st, _ => (st, .panic)
  | fuel + 1, st, p =>
    if p.size = 0 then (st, .ok ())
    else
      match call st p with
      | (st', .ok 0) => (st', .err e0)
      | (st', .ok n) =>
        match p.offset n with
        | .ok p' => exactLoop call e0 fuel st' p'
        | .err e => (st', .err e)
        | .panic => (st', .panic)
      | (st', .err e) => (st', .err e)
      | (st', .panic) => (st', .panic)

section
variable {σ : Type} {call : σ → VSlice → σ × Res Nat} {e0 : Err} {fuel : Nat} {st st' : σ}
  {p : VSlice}

theorem exactLoop_done (hz : p.size = 0) : exactLoop call e0 (fuel + 1) st p = (st, .ok ()) := by
  rw [exactLoop, if_pos hz]

theorem exactLoop_zero (hz : p.size ≠ 0) (h : call st p = (st', .ok 0)) :
    exactLoop call e0 (fuel + 1) st p = (st', .err e0) := by
  rw [exactLoop, if_neg hz, h]; rfl

theorem exactLoop_more (hz : p.size ≠ 0) {n : Nat} (hn : 0 < n) (h : call st p = (st', .ok n)) :
    exactLoop call e0 (fuel + 1) st p =
      match p.offset n with
      | .ok p' => exactLoop call e0 fuel st' p'
      | .err e => (st', .err e)
      | .panic => (st', .panic) := by
  obtain ⟨k, rfl⟩ : ∃ k, n = k + 1 := ⟨n - 1, by omega⟩
  rw [exactLoop, if_neg hz, h]
  rfl
end

/-- The rule of the loop.  `I st p` holds before each call; `R st p st' k` says that `k` bytes
    further on the state is `st'`; a call either moves `n ≤ p.size` bytes or reports an error in
    `E` having moved none.  Then with fuel `> p.size` (every call that lets the loop go on moved
    a byte) the loop moved some `k ≤ p.size` bytes and reports `Ok` iff `k = p.size`; else `e0`
    (a call returned `Ok(0)`) or the call's error; or the `Overflow` of `VolatileSlice::offset`,
    possible only if the slice reaches `2^64`. -/
theorem exactLoop_rule {σ : Type} {call : σ → VSlice → σ × Res Nat} {e0 : Err}
    {I : σ → VSlice → Prop} {R : σ → VSlice → σ → Nat → Prop} {E : Err → Prop}
    (hrefl : ∀ st p, I st p → R st p st 0)
    (hcall : ∀ st p, I st p → ∃ st' x, call st p = (st', x) ∧
      ((∃ n, x = .ok n ∧ n ≤ p.size ∧ R st p st' n) ∨ (∃ e, x = .err e ∧ E e ∧ R st p st' 0)))
    (hnext : ∀ st p st' n, I st p → R st p st' n → n ≤ p.size →
      I st' { addr := p.addr + n, size := p.size - n, bmBase := sliceAt p.bmBase n })
    (htrans : ∀ st p st1 n st2 k, I st p → R st p st1 n → n ≤ p.size →
      R st1 { addr := p.addr + n, size := p.size - n, bmBase := sliceAt p.bmBase n } st2 k →
      R st p st2 (n + k))
    (fuel : Nat) (st : σ) (p : VSlice) (hI : I st p) (hf : p.size < fuel) :
    ∃ st' res k, exactLoop call e0 fuel st p = (st', res) ∧ k ≤ p.size ∧ R st p st' k ∧
      ((res = .ok () ∧ k = p.size) ∨
       (k < p.size ∧ (res = .err e0 ∨ ∃ e, res = .err e ∧ E e)) ∨
       (res = .err .overflow ∧ U ≤ p.addr + k)) := by
  induction fuel generalizing st p with
  | zero => omega
  | succ fuel ih =>
    by_cases hz : p.size = 0
    · exact ⟨st, _, 0, exactLoop_done hz, Nat.zero_le _, hrefl st p hI, .inl ⟨rfl, hz.symm⟩⟩
    · obtain ⟨st1, x, hc, ⟨n, rfl, hn, hR⟩ | ⟨e, rfl, hE, hR⟩⟩ := hcall st p hI
      · by_cases h0 : n = 0
        · subst h0
          exact ⟨st1, _, 0, exactLoop_zero hz hc, Nat.zero_le _, hR,
            .inr (.inl ⟨Nat.pos_of_ne_zero hz, .inl rfl⟩)⟩
        · rw [exactLoop_more hz (Nat.pos_of_ne_zero h0) hc]
          have hI1 := hnext st p st1 n hI hR hn
          by_cases hU : p.addr + n < U
          · rw [offset_of hU hn]
            obtain ⟨st2, res, k, h2, hk, hR2, hres⟩ := ih st1 _ hI1 (by simp only []; omega)
            refine ⟨st2, res, n + k, h2, Nat.add_le_of_le_sub' hn hk,
              htrans st p st1 n st2 k hI hR hn hR2, ?_⟩
            rcases hres with ⟨h, hkk⟩ | ⟨hkk, h⟩ | ⟨h, hkk⟩
            · exact .inl ⟨h, hkk ▸ Nat.add_sub_cancel' hn⟩
            · exact .inr (.inl ⟨Nat.add_lt_of_lt_sub' hkk, h⟩)
            · exact .inr (.inr ⟨h, Nat.add_assoc _ _ _ ▸ hkk⟩)
          · rw [offset_checked, checked_overflow hU]
            have hR0 := htrans st p st1 n st1 0 hI hR hn (hrefl _ _ hI1)
            exact ⟨st1, _, n, rfl, hn, hR0, .inr (.inr ⟨rfl, Nat.le_of_not_lt hU⟩)⟩
      · exact ⟨st1, _, 0, by rw [exactLoop, if_neg hz, hc], Nat.zero_le _, hR,
          .inr (.inl ⟨Nat.pos_of_ne_zero hz, .inr ⟨e, rfl, hE⟩⟩)⟩

/-- `Mem × Reader × Res α` as a state and a result -/
def pack {α : Type} (x : Mem × Reader × Res α) : (Mem × Reader) × Res α := ((x.1, x.2.1), x.2.2)

theorem writeAllLoop_eq (fuel : Nat) (w : Writer) (m : Mem) (p : VSlice) :
    w.writeAllLoop fuel m p =
      exactLoop (fun w p => w.writeRetry m p) (ioErr IoKind.writeZero) fuel w p := by
  induction fuel generalizing w p with
  | zero => rfl
  | succ fuel ih =>
    unfold Writer.writeAllLoop exactLoop
    simp only [ih]
    rcases w.writeRetry m p with ⟨w', (_ | n) | e | _⟩ <;> rfl

theorem readExactLoop_eq (fuel : Nat) (r : Reader) (m : Mem) (p : VSlice) :
    pack (r.readExactLoop fuel m p) =
      exactLoop (fun st p => pack (st.2.readRetry st.1 p)) (ioErr IoKind.unexpectedEof) fuel
        (m, r) p := by
  induction fuel generalizing r m p with
  | zero => rfl
  | succ fuel ih =>
    unfold Reader.readExactLoop exactLoop
    by_cases hz : p.size = 0
    · rw [if_pos hz, if_pos hz]; rfl
    · rw [if_neg hz, if_neg hz]
      rcases r.readRetry m p with ⟨m', r', (_ | n) | e | _⟩ <;> try rfl
      show pack (match p.offset (n + 1) with | .ok p' => _ | .err e => _ | .panic => _) =
        match p.offset (n + 1) with | .ok p' => _ | .err e => _ | .panic => _
      cases p.offset (n + 1) with
      | ok p' => exact ih r' m' p'
      | err e => rfl
      | panic => rfl

/-- what an exact transfer of `size` bytes reports after `k` of them, when the slice ends below
    `2^64` -/
theorem exact_outcome {e0 : Err} {addr size k : Nat} {res : Res Unit} (hU : addr + size < U)
    (hk : k ≤ size)
    (h : (res = .ok () ∧ k = size) ∨
       (k < size ∧ (res = .err e0 ∨ ∃ e, res = .err e ∧ e = .ioError IoKind.other)) ∨
       (res = .err .overflow ∧ U ≤ addr + k)) :
    (res = .ok () ↔ k = size) ∧
      (res = .ok () ∨ res = .err e0 ∨ res = .err (.ioError IoKind.other)) := by
  rcases h with ⟨h1, h2⟩ | ⟨h1, h2 | ⟨e, h2, rfl⟩⟩ | ⟨_, h⟩
  · exact ⟨⟨fun _ => h2, fun _ => h1⟩, .inl h1⟩
  · rw [h2]; exact ⟨⟨fun h => (by cases h), fun h => absurd h (Nat.ne_of_lt h1)⟩, .inr (.inl rfl)⟩
  · rw [h2]; exact ⟨⟨fun h => (by cases h), fun h => absurd h (Nat.ne_of_lt h1)⟩, .inr (.inr rfl)⟩
  · omega

end IoLemmas

namespace Reader
open IoLemmas VolatileLemmas
def next (r : Reader) : Reader := { r with script := r.script.tail }

@[simp] theorem next_kind (r : Reader) : r.next.kind = r.kind := rfl
@[simp] theorem next_data (r : Reader) : r.next.data = r.data := rfl
@[simp] theorem next_pos (r : Reader) : r.next.pos = r.pos := rfl
@[simp] theorem next_script (r : Reader) : r.next.script = r.script.tail := rfl
@[simp] theorem next_avail (r : Reader) : r.next.avail = r.avail := rfl

@[simp] theorem advance_kind (r : Reader) (n : Nat) : (r.advance n).kind = r.kind := by
  cases r with | mk k d p sc => cases k <;> rfl
@[simp] theorem advance_script (r : Reader) (n : Nat) : (r.advance n).script = r.script := by
  cases r with | mk k d p sc => cases k <;> rfl
theorem advance_zero (r : Reader) : r.advance 0 = r := by
  cases r with | mk k d p sc => cases k <;> rfl

theorem advance_avail (r : Reader) (n : Nat) : (r.advance n).avail = r.avail.drop n := by
  cases r with
  | mk k d p sc =>
    cases k <;> simp [advance, avail]
    -- cursor: `min (p + n) len = min (min p len + n) len`
    by_cases hp : p ≤ d.length
    · rw [Nat.min_eq_left hp]
    · have hl := Nat.le_of_not_le hp
      rw [Nat.min_eq_right hl, Nat.min_eq_right (Nat.le_add_right _ _),
        Nat.min_eq_right (Nat.le_trans hl (Nat.le_add_right _ _))]

theorem advance_advance (r : Reader) (a b : Nat) : (r.advance a).advance b = r.advance (a + b) := by
  cases r with
  | mk k d p sc =>
    cases k <;> simp [advance] <;> omega

/-! `avail` and `advance` of the two plain readers -/

theorem avail_slice {r : Reader} (hk : r.kind = .slice) : r.avail = r.data := by
  unfold avail; rw [hk]
theorem advance_slice {r : Reader} (hk : r.kind = .slice) (n : Nat) :
    r.advance n = { r with data := r.data.drop n } := by
  unfold advance; rw [hk]
theorem avail_cursor {r : Reader} (hk : r.kind = .cursor) :
    r.avail = r.data.drop (min r.pos r.data.length) := by
  unfold avail; rw [hk]
theorem advance_cursor {r : Reader} (hk : r.kind = .cursor) (n : Nat) :
    r.advance n = { r with pos := r.pos + n } := by
  unfold advance; rw [hk]

def skipEintr (r : Reader) : Reader := { r with script := r.script.dropWhile (· = .eintr) }
@[simp] theorem skipEintr_kind (r : Reader) : r.skipEintr.kind = r.kind := rfl
@[simp] theorem skipEintr_data (r : Reader) : r.skipEintr.data = r.data := rfl
@[simp] theorem skipEintr_pos (r : Reader) : r.skipEintr.pos = r.pos := rfl
@[simp] theorem skipEintr_avail (r : Reader) : r.skipEintr.avail = r.avail := rfl
theorem skipEintr_hd (r : Reader) : hd r.skipEintr.script ≠ .eintr := hd_dropWhile _

theorem next_of_nil {r : Reader} (hs : r.script = []) : r.next = r := by
  cases r with | mk k d p sc => simp at hs; subst hs; rfl

/-- `k` bytes were consumed from the reader, in order, and stored contiguously at offset `o` -/
structure Moved (r : Reader) (m : Mem) (o : Nat) (r' : Reader) (m' : Mem) (k : Nat) : Prop where
  avail : r'.avail = r.avail.drop k
  kind : r'.kind = r.kind
  le : k ≤ r.avail.length
  bytes : m'.bytes = splice m.bytes o (r.avail.take k)
  base : m'.base = m.base
  bm : BmInv m'

/-- nothing moved: only the bitmap may differ -/
theorem Moved.zero {r r' : Reader} {m m' : Mem} (o : Nat) (ha : r'.avail = r.avail)
    (hk : r'.kind = r.kind) (hb : m'.bytes = m.bytes) (hbase : m'.base = m.base) (hbm : BmInv m') :
    Moved r m o r' m' 0 :=
  ⟨by simp [ha], hk, Nat.zero_le _, hb.trans (DataLemmas.splice_nil _ o).symm, hbase, hbm⟩

/-- `Moved` looks at the reader it starts from only through `avail` and `kind`, at the
    container it starts from only through `bytes` and `base` -/
theorem Moved.congr {r r0 r' : Reader} {m m0 m' : Mem} {o k : Nat} (ha : r0.avail = r.avail)
    (hk : r0.kind = r.kind) (hb : m0.bytes = m.bytes) (hbase : m0.base = m.base)
    (h : Moved r0 m0 o r' m' k) : Moved r m o r' m' k :=
  ⟨ha ▸ h.avail, hk ▸ h.kind, ha ▸ h.le, by rw [h.bytes, ha, hb], hbase ▸ h.base, h.bm⟩

theorem Moved.length {r r' : Reader} {m m' : Mem} {o k : Nat} (h : Moved r m o r' m' k)
    (ho : o + k ≤ m.bytes.length) : m'.bytes.length = m.bytes.length := by
  rw [h.bytes]
  exact DataLemmas.splice_length _ _ _ (by rw [List.length_take_of_le h.le]; exact ho)

theorem Moved.trans {r r1 r2 : Reader} {m m1 m2 : Mem} {o k1 k2 : Nat}
    (h1 : Moved r m o r1 m1 k1) (h2 : Moved r1 m1 (o + k1) r2 m2 k2) :
    Moved r m o r2 m2 (k1 + k2) where
  avail := by rw [h2.avail, h1.avail, List.drop_drop]
  kind := h2.kind.trans h1.kind
  le := by have := h2.le; rw [h1.avail] at this; simp at this; have := h1.le; omega
  bytes := by
    have hl : (r.avail.take k1).length = k1 := List.length_take_of_le h1.le
    rw [h2.bytes, h1.bytes, h1.avail]
    have := DataLemmas.splice_splice m.bytes o (r.avail.take k1) ((r.avail.drop k1).take k2)
    rw [hl] at this
    rw [List.take_add]; exact this
  base := h2.base.trans h1.base
  bm := h2.bm

theorem Moved.frame {r r' : Reader} {m m' : Mem} {o k : Nat} (h : Moved r m o r' m' k)
    (ho : o + k ≤ m.bytes.length) (i : Nat) (hi : i < o ∨ o + k ≤ i) : m'.bytes[i]? = m.bytes[i]? := by
  have hl : (r.avail.take k).length = k := List.length_take_of_le h.le
  rw [h.bytes]
  exact DataLemmas.splice_frame _ _ _ (hl.symm ▸ ho) i (hl.symm ▸ hi)

/-- the bytes now in the window are the bytes consumed -/
theorem Moved.stored {r r' : Reader} {m m' : Mem} {o k : Nat} (h : Moved r m o r' m' k)
    (ho : o ≤ m.bytes.length) : (m'.bytes.drop o).take k = r.avail.take k := by
  have hl : (r.avail.take k).length = k := List.length_take_of_le h.le
  rw [h.bytes]
  have := DataLemmas.splice_read m.bytes o (r.avail.take k) ho
  rw [hl] at this
  exact this

/-! ### one `read_volatile` call -/

/-- a call that transfers `n` bytes -/
def rvCopy (r0 : Reader) (m : Mem) (s : VSlice) (n : Nat) : Mem × Reader × Res Nat :=
  match copyToVolatileSlice m s r0.avail n with
  | .ok (m', n) => (m', r0.advance n, .ok n)
  | .err e => (m, r0, .err e)
  | .panic => (m, r0, .panic)

/-- `failWith k` of `readVolatile` -/
def rvFail (r0 : Reader) (m : Mem) (s : VSlice) (k : Nat) : Mem × Reader × Res Nat :=
  match r0.kind with
  | .fd =>
    match m.mark s.bmBase 0 s.size with
    | .ok m' => (m', r0, .err (ioErr k))
    | _ => (m, r0, .panic)
  | _ => (m, r0, .err (ioErr k))

theorem rvCopy_zero (r0 : Reader) (m : Mem) (s : VSlice) : rvCopy r0 m s 0 = (m, r0, .ok 0) := by
  simp only [rvCopy, DataLemmas.copyToVolatileSlice_zero, advance_zero]

/-- one call is decided by `xfer` of the script's head: so many bytes, or a failure -/
theorem readVolatile_eq_xfer (r : Reader) (m : Mem) (s : VSlice) :
    r.readVolatile m s =
      match xfer (hd r.script) s.size r.avail.length with
      | some n => rvCopy r.next m s n
      | none => rvFail r.next m s (errKind (hd r.script)) := by
  have hfull : ∀ a b : Nat, min (min a b) a = min a b :=
    fun a b => Nat.min_eq_left (Nat.min_le_left a b)
  unfold readVolatile next
  cases hs : r.script with
  | nil => simp only [hd, xfer, hfull]; rfl
  | cons b bs =>
    cases b with
    | full => simp only [hd, xfer, hfull]; rfl
    | zero => exact (rvCopy_zero _ m s).symm
    | _ => rfl

theorem rvCopy_cases (r0 : Reader) (m : Mem) (s : VSlice) (n : Nat) :
    (∃ m', rvCopy r0 m s n = (m', r0.advance n, .ok n)) ∨ rvCopy r0 m s n = (m, r0, .panic) := by
  unfold rvCopy
  rcases DataLemmas.copyToVolatileSlice_cases m s r0.avail n with ⟨m', h⟩ | h
  · rw [h]; exact .inl ⟨m', rfl⟩
  · rw [h]; exact .inr rfl

/-- a failing call, any kind, any container: no byte moves; a raw descriptor marks the whole
    slice dirty, which panics only if the bitmap invariant is broken -/
theorem rvFail_cases (r0 : Reader) (m : Mem) (s : VSlice) (k : Nat) :
    (∃ m', rvFail r0 m s k = (m', r0, .err (.ioError k)) ∧ m'.bytes = m.bytes ∧
      m'.base = m.base ∧ (BmInv m → BmInv m') ∧ (r0.kind ≠ .fd → m' = m)) ∨
    (rvFail r0 m s k = (m, r0, .panic) ∧ r0.kind = .fd ∧ ¬ BmInv m) := by
  unfold rvFail
  split
  · rename_i hk
    cases hm : m.mark s.bmBase 0 s.size with
    | ok m' =>
      obtain ⟨hb, hbase⟩ := DataLemmas.mark_bytes hm
      refine .inl ⟨m', rfl, hb, hbase, fun hbm => ?_, fun h => absurd hk h⟩
      obtain ⟨m2, h2, hinv, _⟩ := DataLemmas.mark_ok m hbm s.bmBase 0 s.size
      rw [hm] at h2; cases h2; exact hinv
    | err e => exact absurd hm (DataLemmas.mark_ne_err _ _ _ _ e)
    | panic =>
      refine .inr ⟨rfl, hk, fun hbm => ?_⟩
      obtain ⟨m2, h2, _⟩ := DataLemmas.mark_ok m hbm s.bmBase 0 s.size
      rw [hm] at h2; cases h2
  · exact .inl ⟨m, rfl, rfl, rfl, id, fun _ => rfl⟩

/-- a non-failing call: moves `n` bytes, in order, to the front of the slice -/
theorem readVolatile_moved {r : Reader} {m : Mem} {s : VSlice} {n : Nat} (hbm : BmInv m) (hin : InB m s)
    (hx : xfer (hd r.script) s.size r.avail.length = some n) :
    ∃ m', r.readVolatile m s = (m', r.next.advance n, .ok n) ∧
      Moved r m (s.addr - m.base) (r.next.advance n) m' n := by
  have hn := xfer_le hx
  obtain ⟨m', h, hst⟩ := DataLemmas.copyToVolatileSlice_sub (o := 0) hbm hin
    (by rw [Nat.zero_add]; exact hn.1) s.bmBase s.size r.avail
  replace h : copyToVolatileSlice m s r.avail n = .ok (m', n) := h
  rw [readVolatile_eq_xfer, hx]
  exact ⟨m', by simp only [rvCopy, next_avail, h],
    ⟨advance_avail _ _, advance_kind _ _, hn.2, hst.bytes, hst.base, hst.inv⟩⟩

/-- a failing call, any kind of reader: nothing moves; only a raw descriptor's container
    changes (its bitmap) -/
theorem readVolatile_failed {r : Reader} {m : Mem} (s : VSlice) (hbm : BmInv m)
    (hx : xfer (hd r.script) s.size r.avail.length = none) :
    ∃ m', r.readVolatile m s = (m', r.next, .err (.ioError (errKind (hd r.script)))) ∧
      Moved r m (s.addr - m.base) r.next m' 0 ∧ (r.kind ≠ .fd → m' = m) := by
  rw [readVolatile_eq_xfer, hx]
  rcases rvFail_cases r.next m s (errKind (hd r.script)) with ⟨m', h, hb, hbase, hinv, hm⟩ | ⟨_, _, h⟩
  · exact ⟨m', h, Moved.zero _ rfl rfl hb hbase (hinv hbm), hm⟩
  · exact absurd hbm h

theorem readVolatile_script (r : Reader) (m : Mem) (s : VSlice) :
    (r.readVolatile m s).2.1.script = r.script.tail := by
  rw [readVolatile_eq_xfer]
  cases xfer (hd r.script) s.size r.avail.length with
  | some n =>
    simp only []
    rcases rvCopy_cases r.next m s n with ⟨m', h⟩ | h <;> rw [h] <;> simp
  | none =>
    rcases rvFail_cases r.next m s (errKind (hd r.script)) with ⟨m', h, _⟩ | ⟨h, _⟩ <;> rw [h] <;> simp

/-! ### `retry_eintr!(read_volatile)` -/

/-- a call reports `Interrupted` only where the script says so -/
theorem readVolatile_ne_eintr {r : Reader} (he : hd r.script ≠ .eintr) (m : Mem) (s : VSlice) :
    (r.readVolatile m s).2.2 ≠ .err (.ioError IoKind.interrupted) := by
  rw [readVolatile_eq_xfer]
  cases hx : xfer (hd r.script) s.size r.avail.length with
  | some n =>
    simp only []
    rcases rvCopy_cases r.next m s n with ⟨m', h⟩ | h <;> rw [h] <;> simp
  | none =>
    rcases rvFail_cases r.next m s (errKind (hd r.script)) with ⟨m', h, _⟩ | ⟨h, _⟩ <;> rw [h]
    · simpa [errKind_eq_interrupted hx] using he
    · simp

/-- the equation of the retry: an `eintr` entry costs one failing call -/
theorem readRetry_step (r : Reader) (m : Mem) (s : VSlice) :
    r.readRetry m s =
      if hd r.script = .eintr then
        match rvFail r.next m s IoKind.interrupted with
        | (m', _, .err _) => r.next.readRetry m' s
        | out => out
      else r.readVolatile m s := by
  conv => lhs; unfold readRetry
  split
  · rename_i hs; rw [if_neg (by rw [hs]; simp [hd])]
  · rename_i b rest hs
    by_cases he : hd r.script = .eintr
    · have hn : ({ r.next with script := rest } : Reader) = r.next := by simp [next, hs]
      rw [if_pos he, readVolatile_eq_xfer, he]
      simp only [xfer, errKind]
      rcases rvFail_cases r.next m s IoKind.interrupted with ⟨m', h, _⟩ | ⟨h, _⟩ <;> rw [h]
      simp only [if_true, hn]
    · rw [if_neg he]
      have hne := readVolatile_ne_eintr he m s
      split
      · rename_i m' r' k h
        rw [h] at hne
        rw [if_neg fun hk => hne (by rw [hk]), h]
      · rfl

/-- `retry_eintr!(read_volatile)`, any kind of reader, any container: one call on the script
    without its leading `eintr` entries.  Only a raw descriptor notices the interrupted calls:
    each marks the target dirty (`m0`), and that marking is the one thing that can panic. -/
theorem readRetry_drop_eintr (r : Reader) (m : Mem) (s : VSlice) :
    (∃ m0, r.readRetry m s = r.skipEintr.readVolatile m0 s ∧ m0.bytes = m.bytes ∧
      m0.base = m.base ∧ (BmInv m → BmInv m0) ∧ (r.kind ≠ .fd → m0 = m)) ∨
    ((r.readRetry m s).2.2 = .panic ∧ r.kind = .fd ∧ ¬ BmInv m) := by
  obtain ⟨k, d, p, σ⟩ := r
  induction σ generalizing m with
  | nil =>
    rw [readRetry_step]
    simp only [hd, reduceCtorEq, ↓reduceIte]
    exact .inl ⟨m, rfl, rfl, rfl, id, fun _ => rfl⟩
  | cons c σ ih =>
    rw [readRetry_step]
    by_cases he : c = .eintr
    · subst he
      simp only [hd, ↓reduceIte]
      rcases rvFail_cases (next ⟨k, d, p, .eintr :: σ⟩) m s IoKind.interrupted with
        ⟨m1, h, hb, hbase, hinv, hm⟩ | ⟨h, hk, hbm⟩
      · rw [h]
        rcases ih m1 with ⟨m0, h0, hb0, hbase0, hinv0, hm0⟩ | ⟨h0, hk0, hbm0⟩
        · exact .inl ⟨m0, h0, hb0.trans hb, hbase0.trans hbase, hinv0 ∘ hinv,
            fun hk => (hm0 hk).trans (hm hk)⟩
        · exact .inr ⟨h0, hk0, hbm0 ∘ hinv⟩
      · rw [h]; exact .inr ⟨rfl, hk, hbm⟩
    · refine .inl ⟨m, ?_, rfl, rfl, id, fun _ => rfl⟩
      simp [hd, skipEintr, List.dropWhile, he]

/-- `retry_eintr!(read_volatile)` for every kind of reader and every script: the call the script
    prescribes after its leading `eintr` entries moved `n` bytes and `Ok(n)`, or none moved and
    the stream's own error. -/
theorem readRetry_moved (r : Reader) {m : Mem} {s : VSlice} (hbm : BmInv m) (hin : InB m s) :
    ∃ m' r' x, r.readRetry m s = (m', r', x) ∧
      ((∃ n, xfer (hd r.skipEintr.script) s.size r.avail.length = some n ∧
          r' = r.skipEintr.next.advance n ∧ x = .ok n ∧ Moved r m (s.addr - m.base) r' m' n) ∨
       (hd r.skipEintr.script = .fail ∧ r' = r.skipEintr.next ∧
          x = .err (.ioError IoKind.other) ∧ Moved r m (s.addr - m.base) r' m' 0)) := by
  rcases readRetry_drop_eintr r m s with ⟨m0, h, hb, hbase, hinv, _⟩ | ⟨_, _, h⟩
  · rw [h, ← hbase]
    cases hx : xfer (hd r.skipEintr.script) s.size r.avail.length with
    | some n =>
      obtain ⟨m', h1, hmv⟩ := readVolatile_moved (hinv hbm) (DataLemmas.Win.congr hbase (by rw [hb]) hin) hx
      exact ⟨m', _, _, h1, .inl ⟨n, rfl, rfl, rfl, hmv.congr (r0 := r.skipEintr) rfl rfl hb hbase⟩⟩
    | none =>
      have hf := hd_fail hx (skipEintr_hd r)
      obtain ⟨m', h1, hmv, _⟩ := readVolatile_failed s (hinv hbm) hx
      rw [hf] at h1
      exact ⟨m', _, _, h1, .inr ⟨hf, rfl, rfl, hmv.congr (r0 := r.skipEintr) rfl rfl hb hbase⟩⟩
  · exact absurd hbm h

/-! ### the default `read_exact_volatile` loop, and which readers use it -/

/-- The default `read_exact_volatile` loop, for every kind of reader and every script: `k` bytes
    were consumed in order and stored contiguously from the start of `p`; `Ok` iff `k = p.size`;
    otherwise `UnexpectedEof` or the stream's own error — or, for a container reaching `2^64`,
    the `Overflow` of `VolatileSlice::offset`.  Never `Interrupted`, never a panic: the fuel
    `p.size + 1` suffices. -/
theorem readExactLoop_spec (fuel : Nat) (r : Reader) (m : Mem) (p : VSlice)
    (hbm : BmInv m) (hin : InB m p) (hf : p.size < fuel) :
    ∃ m' r' res k, r.readExactLoop fuel m p = (m', r', res) ∧ k ≤ p.size ∧
      Moved r m (p.addr - m.base) r' m' k ∧
      ((res = .ok () ∧ k = p.size) ∨
       (k < p.size ∧ (res = .err (.ioError IoKind.unexpectedEof) ∨
                      ∃ e, res = .err e ∧ e = .ioError IoKind.other)) ∨
       (res = .err .overflow ∧ U ≤ p.addr + k)) := by
  obtain ⟨⟨m', r'⟩, res, k, h, hk, hR, hres⟩ :=
    exactLoop_rule (e0 := ioErr IoKind.unexpectedEof)
      (call := fun st p => pack (st.2.readRetry st.1 p))
      (I := fun st p => BmInv st.1 ∧ InB st.1 p)
      (R := fun st p st' k => Moved st.2 st.1 (p.addr - st.1.base) st'.2 st'.1 k)
      (E := (· = .ioError IoKind.other))
      (fun st p hI => Moved.zero _ rfl rfl rfl rfl hI.1)
      (fun st p hI => by
        obtain ⟨m', r', x, h, hx⟩ := readRetry_moved st.2 hI.1 hI.2
        refine ⟨(m', r'), x, by rw [h]; rfl, ?_⟩
        rcases hx with ⟨n, hx, _, rfl, hmv⟩ | ⟨_, _, rfl, hmv⟩
        · exact .inl ⟨n, rfl, (xfer_le hx).1, hmv⟩
        · exact .inr ⟨_, rfl, rfl, hmv⟩)
      (fun st p st' n hI hR hn =>
        ⟨hR.bm, DataLemmas.Win.congr hR.base (hR.length (hI.2.fits hn))
          (hI.2.window (Nat.le_of_eq (Nat.add_sub_cancel' hn)) _)⟩)
      (fun st p st1 n st2 k hI hR hn hR2 => by
        have he : p.addr + n - st1.1.base = p.addr - st.1.base + n := by
          rw [hR.base]; exact DataLemmas.Win.ofs hI.2 n
        rw [show (VSlice.mk (p.addr + n) (p.size - n) (sliceAt p.bmBase n)).addr = p.addr + n
          from rfl, he] at hR2
        exact hR.trans hR2)
      fuel (m, r) p ⟨hbm, hin⟩ hf
  rw [← readExactLoop_eq] at h
  exact ⟨m', r', res, k, congrArg (fun x => (x.1.1, x.1.2, x.2)) h, hk, hR, hres⟩

/-- the overriding `read_exact_volatile` of `&[u8]` and `Cursor` -/
theorem readExact_override (r : Reader) (m : Mem) (s : VSlice)
    (hk : r.kind = .slice ∨ r.kind = .cursor) :
    r.readExact m s =
      if s.size > r.avail.length then (m, r, .err (.ioError IoKind.unexpectedEof))
      else
        match r.readVolatile m s with
        | (m', r', .ok _) => (m', r', .ok ())
        | (m', r', .err e) => (m', r', .err e)
        | (m', r', .panic) => (m', r', .panic) := by
  unfold readExact
  rcases hk with hk | hk <;> rw [hk] <;> rfl

/-- `read_exact_volatile` through the default loop (harness streams, raw descriptors) -/
theorem readExact_default (r : Reader) (m : Mem) (s : VSlice)
    (hk : r.kind = .scripted ∨ r.kind = .fd) (hU : s.addr < U) :
    r.readExact m s =
      r.readExactLoop (s.size + 1) m
        { addr := s.addr, size := s.size, bmBase := sliceAt s.bmBase 0 } := by
  unfold readExact
  rcases hk with hk | hk <;> simp only [hk, offset_zero s hU]

end Reader

namespace Writer
open IoLemmas VolatileLemmas

def next (w : Writer) : Writer := { w with script := w.script.tail }
@[simp] theorem next_kind (w : Writer) : w.next.kind = w.kind := rfl
@[simp] theorem next_buf (w : Writer) : w.next.buf = w.buf := rfl
@[simp] theorem next_pos (w : Writer) : w.next.pos = w.pos := rfl
@[simp] theorem next_script (w : Writer) : w.next.script = w.script.tail := rfl
@[simp] theorem next_room (w : Writer) : w.next.room = w.room := rfl

theorem next_of_nil {w : Writer} (hs : w.script = []) : w.next = w := by
  cases w with | mk k b p sc => simp at hs; subst hs; rfl

/-- largest amount a `full` call takes out of a slice of `size` bytes -/
def cap (w : Writer) (size : Nat) : Nat :=
  match w.room with | some r => min size r | none => size

theorem cap_le (w : Writer) (size : Nat) : w.cap size ≤ size := by
  unfold cap
  split
  · exact Nat.min_le_left _ _
  · exact Nat.le_refl _

theorem cap_of_room_none {w : Writer} (h : w.room = none) (size : Nat) : w.cap size = size := by
  unfold cap; rw [h]

theorem cap_of_room_some {w : Writer} {rm : Nat} (h : w.room = some rm) (size : Nat) :
    w.cap size = min size rm := by
  unfold cap; rw [h]

@[simp] theorem accept_kind (w : Writer) (d : List UInt8) : (w.accept d).kind = w.kind := by
  cases w with | mk k b p sc => cases k <;> rfl
@[simp] theorem accept_script (w : Writer) (d : List UInt8) : (w.accept d).script = w.script := by
  cases w with | mk k b p sc => cases k <;> rfl
theorem accept_nil (w : Writer) : w.accept [] = w := by
  cases w with | mk k b p sc => cases k <;> simp [accept, spliceAt]

theorem accept_withScript (w : Writer) (σ : List Beh) (d : List UInt8) :
    ({ w with script := σ } : Writer).accept d = { w.accept d with script := σ } := by
  cases w with | mk k b p sc => cases k <;> rfl

/-- a sink that took `d1` and then `d2` took `d1 ++ d2` — every kind, also a bounded sink that
    was handed more than fits -/
theorem accept_accept (w : Writer) (d1 d2 : List UInt8) :
    (w.accept d1).accept d2 = w.accept (d1 ++ d2) := by
  obtain ⟨k, b, p, sc⟩ := w
  cases k <;> simp only [accept, spliceAt_eq_splice, List.append_assoc, List.length_append,
    Nat.add_assoc, Writer.mk.injEq, true_and, and_true]
  · exact DataLemmas.splice_splice b p d1 d2
  · -- cursor: the clamped position moves on by `d1.length`
    have hm : min (p + d1.length) (splice b (min p b.length) d1).length =
        min p b.length + d1.length := by
      by_cases hp : p ≤ b.length
      · simp [splice, Nat.min_eq_left hp]
      · simp [splice, Nat.min_eq_right (Nat.le_of_not_le hp)]
    rw [hm]; exact DataLemmas.splice_splice b (min p b.length) d1 d2

theorem room_none_iff (w : Writer) :
    w.room = none ↔ (w.kind = .vec ∨ w.kind = .scripted ∨ w.kind = .fd) := by
  cases w with | mk k b p sc => cases k <;> simp [room]

theorem accept_of_room_none {w : Writer} (h : w.room = none) (d : List UInt8) :
    w.accept d = { w with buf := w.buf ++ d } := by
  cases w with | mk k b p sc => cases k <;> simp [room] at h <;> rfl

def skipEintr (w : Writer) : Writer := { w with script := w.script.dropWhile (· = .eintr) }
@[simp] theorem skipEintr_kind (w : Writer) : w.skipEintr.kind = w.kind := rfl
@[simp] theorem skipEintr_buf (w : Writer) : w.skipEintr.buf = w.buf := rfl
@[simp] theorem skipEintr_pos (w : Writer) : w.skipEintr.pos = w.pos := rfl
theorem skipEintr_hd (w : Writer) : hd w.skipEintr.script ≠ .eintr := hd_dropWhile _

/-- the sink `w` took `d` and became `w'`; only the script went its own way -/
def Took (w w' : Writer) (d : List UInt8) : Prop :=
  ({ w' with script := w.script } : Writer) = w.accept d

theorem Took.of_eq {w w0 : Writer} (h : ({ w0 with script := w.script } : Writer) = w)
    (d : List UInt8) : Took w (w0.accept d) d := by
  unfold Took
  rw [← accept_withScript, h]

theorem Took.nil {w w0 : Writer} (h : ({ w0 with script := w.script } : Writer) = w) :
    Took w w0 [] := by
  have := Took.of_eq h []; rwa [accept_nil] at this

theorem Took.trans {w w1 w2 : Writer} {d1 d2 : List UInt8} (h1 : Took w w1 d1)
    (h2 : Took w1 w2 d2) : Took w w2 (d1 ++ d2) := by
  unfold Took at *
  rw [← accept_accept, ← h1, accept_withScript, ← h2]

/-- a sink without a capacity limit (`Vec`, harness stream, descriptor): `d` appended -/
theorem Took.unbounded {w w' : Writer} {d : List UInt8} (h : Took w w' d) (hr : w.room = none) :
    w'.buf = w.buf ++ d ∧ w'.kind = w.kind ∧ w'.pos = w.pos := by
  unfold Took at h
  rw [accept_of_room_none hr] at h
  have h1 := congrArg Writer.buf h
  have h2 := congrArg Writer.kind h
  have h3 := congrArg Writer.pos h
  exact ⟨h1, h2, h3⟩

/-! ### one `write_volatile` call -/

/-- a call that hands `n` bytes of the slice to the sink -/
def wvCopy (w0 : Writer) (m : Mem) (s : VSlice) (n : Nat) : Writer × Res Nat :=
  match copyFromVolatileSlice m s n with
  | .ok d => (w0.accept d, .ok n)
  | .err e => (w0, .err e)
  | .panic => (w0, .panic)

/-- one call is decided by `xfer` of the script's head, the sink's room standing for the bytes
    available -/
theorem writeVolatile_eq_xfer (w : Writer) (m : Mem) (s : VSlice) :
    w.writeVolatile m s =
      match xfer (hd w.script) s.size (w.cap s.size) with
      | some n => wvCopy w.next m s n
      | none => (w.next, .err (.ioError (errKind (hd w.script)))) := by
  have hc : min s.size (w.cap s.size) = w.cap s.size := Nat.min_eq_right (cap_le w s.size)
  have hc' : min (w.cap s.size) s.size = w.cap s.size := Nat.min_eq_left (cap_le w s.size)
  unfold writeVolatile next
  cases hs : w.script with
  | nil => simp only [hd, xfer, hc]; rw [← hc']; rfl
  | cons b bs =>
    cases b with
    | full => simp only [hd, xfer, hc]; rw [← hc']; rfl
    | short k => simp only [hd, xfer, hc]; rfl
    | zero => simp only [hd, xfer, wvCopy, DataLemmas.copyFromVolatileSlice_zero, accept_nil]; rfl
    | _ => rfl

theorem wvCopy_ok {m : Mem} {s : VSlice} (hin : InB m s) (w0 : Writer) {n : Nat} (hn : n ≤ s.size) :
    wvCopy w0 m s n = (w0.accept ((m.bytes.drop (s.addr - m.base)).take n), .ok n) := by
  unfold wvCopy copyFromVolatileSlice; rw [DataLemmas.readAt_win hin hn]

theorem wvCopy_cases (w0 : Writer) (m : Mem) (s : VSlice) (n : Nat) :
    (∃ d, wvCopy w0 m s n = (w0.accept d, .ok n)) ∨ wvCopy w0 m s n = (w0, .panic) := by
  unfold wvCopy
  rcases DataLemmas.copyFromVolatileSlice_cases m s n with h | h <;> rw [h]
  · exact .inl ⟨_, rfl⟩
  · exact .inr rfl

theorem writeVolatile_script (w : Writer) (m : Mem) (s : VSlice) :
    (w.writeVolatile m s).1.script = w.script.tail := by
  rw [writeVolatile_eq_xfer]
  cases xfer (hd w.script) s.size (w.cap s.size) with
  | some n =>
    simp only []
    rcases wvCopy_cases w.next m s n with ⟨d, h⟩ | h <;> rw [h] <;> simp
  | none => rfl

/-! ### `retry_eintr!(write_volatile)` and the default `write_all_volatile` loop -/

theorem writeVolatile_ne_eintr {w : Writer} (he : hd w.script ≠ .eintr) (m : Mem) (s : VSlice) :
    (w.writeVolatile m s).2 ≠ .err (.ioError IoKind.interrupted) := by
  rw [writeVolatile_eq_xfer]
  cases hx : xfer (hd w.script) s.size (w.cap s.size) with
  | some n =>
    simp only []
    rcases wvCopy_cases w.next m s n with ⟨d, h⟩ | h <;> rw [h] <;> simp
  | none => simpa [errKind_eq_interrupted hx] using he

theorem writeRetry_step (w : Writer) (m : Mem) (s : VSlice) :
    w.writeRetry m s =
      if hd w.script = .eintr then w.next.writeRetry m s else w.writeVolatile m s := by
  conv => lhs; unfold writeRetry
  split
  · rename_i hs; rw [if_neg (by rw [hs]; simp [hd])]
  · rename_i b rest hs
    by_cases he : hd w.script = .eintr
    · have hn : ({ w.next with script := rest } : Writer) = w.next := by simp [next, hs]
      rw [if_pos he, writeVolatile_eq_xfer, he]
      simp only [xfer, errKind, if_true, hn]
    · rw [if_neg he]
      have hne := writeVolatile_ne_eintr he m s
      split
      · rename_i w' k h
        rw [h] at hne
        rw [if_neg fun hk => hne (by rw [hk]), h]
      · rfl

/-- `retry_eintr!` = one call on the script with its leading `eintr` entries deleted -/
theorem writeRetry_drop_eintr (w : Writer) (m : Mem) (s : VSlice) :
    w.writeRetry m s = w.skipEintr.writeVolatile m s := by
  obtain ⟨k, b, p, σ⟩ := w
  induction σ with
  | nil => rw [writeRetry_step]; rfl
  | cons c σ ih =>
    rw [writeRetry_step]
    by_cases he : c = .eintr
    · -- `next` and `skipEintr` of the script `eintr :: σ` compute to those of `σ`
      subst he; exact ih
    · simp [hd, skipEintr, List.dropWhile, he]

/-- `retry_eintr!(write_volatile)`, any sink, any script: the sink took the first `n` bytes of
    the slice and `Ok(n)`, or nothing and the stream's own error -/
theorem writeRetry_took (w : Writer) {m : Mem} {s : VSlice} (hin : InB m s) :
    ∃ w' x n, w.writeRetry m s = (w', x) ∧ n ≤ s.size ∧
      Took w w' ((m.bytes.drop (s.addr - m.base)).take n) ∧
      (x = .ok n ∨ (n = 0 ∧ x = .err (.ioError IoKind.other))) := by
  have hsk : ({ w.skipEintr.next with script := w.script } : Writer) = w := rfl
  rw [writeRetry_drop_eintr, writeVolatile_eq_xfer]
  cases hx : xfer (hd w.skipEintr.script) s.size (w.skipEintr.cap s.size) with
  | some n =>
    have hn := (xfer_le hx).1
    exact ⟨_, _, n, wvCopy_ok hin _ hn, hn, Took.of_eq hsk _, .inl rfl⟩
  | none =>
    rw [hd_fail hx (skipEintr_hd w)]
    exact ⟨_, _, 0, rfl, Nat.zero_le _, Took.nil hsk, .inr ⟨rfl, rfl⟩⟩

/-- The default `write_all_volatile` loop, for every sink and every script: the sink took the
    first `k` bytes of `p`; `Ok` iff `k = p.size`; otherwise `WriteZero` or the stream's own
    error — or `Overflow` as for readers.  Never `Interrupted`, never a panic. -/
theorem writeAllLoop_spec (fuel : Nat) (w : Writer) (m : Mem) (p : VSlice) (hin : InB m p)
    (hf : p.size < fuel) :
    ∃ w' res k, w.writeAllLoop fuel m p = (w', res) ∧ k ≤ p.size ∧
      Took w w' ((m.bytes.drop (p.addr - m.base)).take k) ∧
      ((res = .ok () ∧ k = p.size) ∨
       (k < p.size ∧ (res = .err (.ioError IoKind.writeZero) ∨
                      ∃ e, res = .err e ∧ e = .ioError IoKind.other)) ∨
       (res = .err .overflow ∧ U ≤ p.addr + k)) := by
  rw [writeAllLoop_eq]
  exact exactLoop_rule
    (I := fun _ p => InB m p)
    (R := fun w p w' k => Took w w' ((m.bytes.drop (p.addr - m.base)).take k))
    (E := (· = .ioError IoKind.other))
    (fun w p _ => Took.nil rfl)
    (fun w p hI => by
      obtain ⟨w', x, n, h, hn, ht, hx⟩ := writeRetry_took w hI
      refine ⟨w', x, h, ?_⟩
      rcases hx with hx | ⟨rfl, hx⟩
      · exact .inl ⟨n, hx, hn, ht⟩
      · exact .inr ⟨_, hx, rfl, ht⟩)
    (fun w p w' n hI _ hn => hI.window (Nat.le_of_eq (Nat.add_sub_cancel' hn)) _)
    (fun w p w1 n w2 k hI hR hn hR2 => by
      simp only [DataLemmas.Win.ofs hI n] at hR2
      have := hR.trans hR2
      rwa [← List.drop_drop, ← List.take_add] at this)
    fuel w p hin hf

/-- the overriding `write_all_volatile` of `&mut [u8]` -/
theorem writeAll_override (w : Writer) (m : Mem) (s : VSlice) (hk : w.kind = .mutSlice) :
    w.writeAll m s =
      match w.writeVolatile m s with
      | (w', .ok n) => if n = s.size then (w', .ok ()) else (w', .err (.ioError IoKind.writeZero))
      | (w', .err e) => (w', .err e)
      | (w', .panic) => (w', .panic) := by
  unfold writeAll
  rw [hk]; rfl

/-- `write_all_volatile` through the default loop (every sink but `&mut [u8]`) -/
theorem writeAll_default (w : Writer) (m : Mem) (s : VSlice) (hk : w.kind ≠ .mutSlice)
    (hU : s.addr < U) :
    w.writeAll m s =
      w.writeAllLoop (s.size + 1) m
        { addr := s.addr, size := s.size, bmBase := sliceAt s.bmBase 0 } := by
  unfold writeAll
  cases hkk : w.kind <;> first | exact absurd hkk hk | simp only [offset_zero s hU]

end Writer

/-! ### the four stream forms of `Bytes<usize> for VolatileSlice`: the call they make, on
    which window -/
namespace IoLemmas
open VolatileLemmas

theorem readVolatileFrom_eq (m : Mem) (s : VSlice) (addr : Nat) (r : Reader) (count : Nat)
    (hU : s.addr + addr < U) (ha : addr ≤ s.size) (hsz : s.size < U) :
    s.readVolatileFrom m addr r count =
      r.readRetry m (VSlice.mk (s.addr + addr) (min (s.size - addr) count)
        (sliceAt (sliceAt s.bmBase addr) 0)) := by
  unfold VSlice.readVolatileFrom
  rw [offset_of hU ha]
  simp only []
  rw [subslice_of (by omega) (by simp only []; omega)]
  rfl

theorem writeVolatileTo_eq (m : Mem) (s : VSlice) (addr : Nat) (w : Writer) (count : Nat)
    (hU : s.addr + addr < U) (ha : addr ≤ s.size) (hsz : s.size < U) :
    s.writeVolatileTo m addr w count =
      w.writeRetry m (VSlice.mk (s.addr + addr) (min (s.size - addr) count)
        (sliceAt (sliceAt s.bmBase addr) 0)) := by
  unfold VSlice.writeVolatileTo
  rw [offset_of hU ha]
  simp only []
  rw [subslice_of (by omega) (by simp only []; omega)]
  rfl

theorem readExactVolatileFrom_eq (m : Mem) (s : VSlice) (addr : Nat) (r : Reader) (count : Nat)
    (hU : addr + count < U) (hfit : addr + count ≤ s.size) :
    s.readExactVolatileFrom m addr r count =
      r.readExact m { addr := s.addr + addr, size := count, bmBase := sliceAt s.bmBase addr } := by
  unfold VSlice.readExactVolatileFrom
  rw [subslice_of hU hfit]

theorem writeAllVolatileTo_eq (m : Mem) (s : VSlice) (addr : Nat) (w : Writer) (count : Nat)
    (hU : addr + count < U) (hfit : addr + count ≤ s.size) :
    s.writeAllVolatileTo m addr w count =
      w.writeAll m { addr := s.addr + addr, size := count, bmBase := sliceAt s.bmBase addr } := by
  unfold VSlice.writeAllVolatileTo
  rw [subslice_of hU hfit]

/-- `read_volatile_from(addr, src, count)` with `addr ≤ s.size`, any kind of reader, any
    script: `retry_eintr!(read_volatile)` on the window `[addr, addr + min(s.size - addr, count))` -/
theorem readVolatileFrom_spec (m : Mem) (s : VSlice) (addr : Nat) (r : Reader) (count : Nat)
    (hbm : BmInv m) (hin : InB m s) (hU : s.addr + addr < U) (hsz : s.size < U)
    (ha : addr ≤ s.size) :
    ∃ m' r' x, s.readVolatileFrom m addr r count = (m', r', x) ∧
      ((∃ n, xfer (hd r.skipEintr.script) (min (s.size - addr) count) r.avail.length = some n ∧
          r' = r.skipEintr.next.advance n ∧ x = .ok n ∧
          Reader.Moved r m (s.addr - m.base + addr) r' m' n) ∨
       (hd r.skipEintr.script = .fail ∧ r' = r.skipEintr.next ∧
          x = .err (.ioError IoKind.other) ∧
          Reader.Moved r m (s.addr - m.base + addr) r' m' 0)) := by
  rw [readVolatileFrom_eq m s addr r count hU ha hsz, ← DataLemmas.Win.ofs hin addr]
  exact Reader.readRetry_moved r hbm
    (hin.window (Nat.add_le_of_le_sub' ha (Nat.min_le_left _ _)) _)

end IoLemmas
end VmMem
