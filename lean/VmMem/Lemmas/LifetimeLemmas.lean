/-
  VmMem.Lemmas.LifetimeLemmas — list facts for C12 (ownership of mappings).
  The central one: a reference count is positive iff some live handle holds the id.
-/
import VmMem.Model.Lifetime
namespace VmMem
namespace Lifetime

/-- some handle in `hs` holds a reference to `rid` -/
def Reach (hs : List Handle) (rid : Nat) : Prop := ∃ h ∈ hs, rid ∈ h.refs

@[simp] theorem reach_nil (rid : Nat) : ¬ Reach [] rid := nofun

@[simp] theorem reach_cons (x : Handle) (l : List Handle) (rid : Nat) : Reach (x :: l) rid ↔ rid ∈ x.refs ∨ Reach l rid := by
  simp [Reach]

@[simp] theorem reach_append (l l' : List Handle) (rid : Nat) : Reach (l ++ l') rid ↔ Reach l rid ∨ Reach l' rid := by
  simp [Reach, or_and_right, exists_or]

theorem Reach.of_mem {l : List Handle} {x : Handle} {rid : Nat} (hx : x ∈ l) (hr : rid ∈ x.refs) : Reach l rid :=
  ⟨x, hx, hr⟩

theorem Reach.of_filter {l : List Handle} {p : Handle → Bool} {rid : Nat} : Reach (l.filter p) rid → Reach l rid :=
  fun ⟨x, hx, hr⟩ => ⟨x, (List.mem_filter.1 hx).1, hr⟩

theorem refcount_pos_iff (s : St) (rid : Nat) : refcount s rid > 0 ↔ Reach s.handles rid := by
  unfold refcount Reach
  induction s.handles with
  | nil => simp
  | cons a t ih =>
    simp only [List.map_cons, List.sum_cons, List.mem_cons, exists_eq_or_imp]
    rw [← ih, ← List.count_pos_iff]
    omega

theorem refcount_eq_zero_iff (s : St) (rid : Nat) : refcount s rid = 0 ↔ ¬ Reach s.handles rid := by
  rw [← refcount_pos_iff]; omega

theorem fresh_iff (s : St) (hid : Nat) : fresh s hid = true ↔ ∀ h ∈ s.handles, h.hid ≠ hid := by
  unfold fresh findH
  simp [List.find?_eq_none]

theorem findH_some (s : St) (hid : Nat) (h : Handle) (hf : findH s hid = some h) :
    h ∈ s.handles ∧ h.hid = hid :=
  ⟨List.mem_of_find?_eq_some hf, by simpa using List.find?_some hf⟩

theorem findH_of_mem (s : St) (hnd : (s.handles.map (·.hid)).Nodup) (h : Handle) (hm : h ∈ s.handles) :
    findH s h.hid = some h := by
  unfold findH
  revert hnd hm
  induction s.handles with
  | nil => exact fun _ hm => nomatch hm
  | cons a t ih =>
    intro hnd hm
    simp only [List.map_cons, List.nodup_cons, List.mem_map, not_exists, not_and] at hnd
    rcases List.mem_cons.1 hm with e | hmt
    · subst e; simp
    · have hne : a.hid ≠ h.hid := fun e => hnd.1 h hmt e.symm
      rw [List.find?_cons_of_neg (by simpa using hne)]
      exact ih hnd.2 hmt

theorem nodup_snoc {α} {key : α → Nat} (l : List α) (hnd : (l.map key).Nodup) (x : α)
    (hx : ∀ a ∈ l, key a ≠ key x) : ((l ++ [x]).map key).Nodup := by
  rw [List.map_append, List.nodup_append]
  refine ⟨hnd, List.pairwise_singleton _ _, fun a ha b hb => ?_⟩
  obtain ⟨h, hh, rfl⟩ := List.mem_map.1 ha
  exact List.mem_singleton.1 hb ▸ hx h hh

theorem nodup_filter (l : List Handle) (p : Handle → Bool) (hnd : (l.map (·.hid)).Nodup) :
    ((l.filter p).map (·.hid)).Nodup :=
  List.Nodup.sublist (List.Sublist.map _ List.filter_sublist) hnd

end Lifetime
end VmMem
