/-
  VmMem.Lemmas.XenBuildLemmas — what each layer of `from_range` has acquired when it returns.

  `Gain k k' ms gs`: the kernel state `k'` holds the `mmap` ranges `ms` and the grant mappings `gs`
  on top of what `k` held, and no release in between has faulted.  Each layer (`mmapCall`,
  `grantMapCall`, `mmapRange`, `newMapWith`, `fromRangeWith`) is unfolded in this file only, to say what
  it has gained on each of its outcomes; `Drop` gives a gain back.
-/
import VmMem.Model.XenBuild
import VmMem.Lemmas.ConstructLemmas
namespace VmMem

namespace C12x
open XenBuild
/-- what a mapping object owns in the kernel -/
def ownMaps : XMap → List (Nat × Nat)
  | .unix a s => [(a, s)]
  | .foreign a s => [(a, s)]
  | .grantAdvance a ms _ _ => [(a, ms)]
  | .grantOnDemand => []

def ownGrants (page : Nat) : XMap → List (Nat × Nat)
  | .grantAdvance _ _ idx rs => [(idx, (pages rs page).1)]
  | _ => []
end C12x

namespace XenBuild
open Construct C12x

structure Gain (k k' : Kernel) (ms gs : List (Nat × Nat)) : Prop where
  maps : k'.maps = ms ++ k.maps
  grants : k'.grants = gs ++ k.grants
  faults : k'.faults = k.faults

variable {k k' k1 k2 : Kernel} {sc sc' : Script} {ms gs ms1 gs1 ms2 gs2 : List (Nat × Nat)}

theorem Gain.refl (k : Kernel) : Gain k k [] [] := ⟨rfl, rfl, rfl⟩

theorem Gain.trans (h1 : Gain k k1 ms1 gs1) (h2 : Gain k1 k2 ms2 gs2) : Gain k k2 (ms2 ++ ms1) (gs2 ++ gs1) :=
  ⟨by rw [h2.maps, h1.maps, List.append_assoc], by rw [h2.grants, h1.grants, List.append_assoc],
   h2.faults.trans h1.faults⟩

theorem mmapCall_none {size : Nat} (h : mmapCall k size sc = (none, k', sc')) : Gain k k' [] [] := by
  unfold mmapCall at h
  split at h <;> cases h
  exact Gain.refl k

theorem mmapCall_some {size a : Nat} (h : mmapCall k size sc = (some a, k', sc')) : Gain k k' [(a, size)] [] := by
  unfold mmapCall at h
  split at h <;> cases h
  exact ⟨rfl, rfl, rfl⟩

theorem grantMapCall_false {i c : Nat} (h : grantMapCall k i c sc = (false, k', sc')) : Gain k k' [] [] := by
  unfold grantMapCall at h
  split at h <;> cases h
  exact Gain.refl k

theorem grantMapCall_true {i c : Nat} (h : grantMapCall k i c sc = (true, k', sc')) : Gain k k' [] [(i, c)] := by
  unfold grantMapCall at h
  split at h <;> cases h
  exact ⟨rfl, rfl, rfl⟩

@[simp] theorem munmapCall_maps (k : Kernel) (a s : Nat) : (munmapCall k a s).maps = k.maps.erase (a, s) := by
  unfold munmapCall
  split
  · rfl
  · exact (List.erase_of_not_mem ‹_›).symm

@[simp] theorem munmapCall_grants (k : Kernel) (a s : Nat) : (munmapCall k a s).grants = k.grants := by
  unfold munmapCall
  split <;> rfl

theorem munmapCall_faults {a s : Nat} (h : (a, s) ∈ k.maps) : (munmapCall k a s).faults = k.faults := by
  unfold munmapCall
  rw [if_pos h]

@[simp] theorem grantUnmapCall_grants (k : Kernel) (i c : Nat) :
    (grantUnmapCall k i c).grants = k.grants.erase (i, c) := by
  unfold grantUnmapCall
  split
  · rfl
  · exact (List.erase_of_not_mem ‹_›).symm

@[simp] theorem grantUnmapCall_maps (k : Kernel) (i c : Nat) : (grantUnmapCall k i c).maps = k.maps := by
  unfold grantUnmapCall
  split <;> rfl

theorem grantUnmapCall_faults {i c : Nat} (h : (i, c) ∈ k.grants) : (grantUnmapCall k i c).faults = k.faults := by
  unfold grantUnmapCall
  rw [if_pos h]

theorem Gain.munmap {a s : Nat} (h : Gain k k' ((a, s) :: ms) gs) : Gain k (munmapCall k' a s) ms gs :=
  ⟨by simp [h.maps], by simp [h.grants], by rw [munmapCall_faults (by simp [h.maps]), h.faults]⟩

theorem Gain.grantUnmap {i c : Nat} (h : Gain k k' ms ((i, c) :: gs)) : Gain k (grantUnmapCall k' i c) ms gs :=
  ⟨by simp [h.maps], by simp [h.grants], by rw [grantUnmapCall_faults (by simp [h.grants]), h.faults]⟩

theorem mmapRange_spec {addr size page : Nat} {o : Option (Nat × Nat × Nat)}
    (h : mmapRange k addr size page sc = (o, k', sc')) :
    match o with
    | none => Gain k k' [] []
    | some (a, sz, idx) =>
      sz = (pages size page).2 ∧ idx = grantIndex addr page ∧ Gain k k' [(a, sz)] [(idx, (pages size page).1)] := by
  unfold mmapRange at h
  simp only [pages] at h
  split at h
  · rename_i e1
    cases h
    exact grantMapCall_false e1
  · rename_i e1
    have h1 := grantMapCall_true e1
    split at h
    · -- the `mmap` failed: the grant mapping just made is given back
      rename_i e2
      cases h
      exact (h1.trans (mmapCall_none e2)).grantUnmap
    · rename_i e2
      cases h
      exact ⟨rfl, rfl, h1.trans (mmapCall_some e2)⟩

theorem Gain.unmapRange {a msize idx size page : Nat}
    (h : Gain k k' ((a, msize) :: ms) ((idx, (pages size page).1) :: gs)) :
    Gain k (unmapRange k' a msize idx size page) ms gs := h.munmap.grantUnmap

/-- whichever way `MmapXen::new` returns, the kernel holds exactly what the returned object owns: nothing after an
    error, at whatever call it occurred -/
theorem newMap_spec {r : Req} {f : Flags} {page : Nat} {res : Except BErr XMap}
    (h : newMapWith mmapRange r f page k sc = (res, k', sc')) :
    match res with
    | .error _ => Gain k k' [] []
    | .ok m => Gain k k' (ownMaps m) (ownGrants page m) := by
  unfold newMapWith at h
  by_cases hfo : isForeign f = true
  · rw [if_pos hfo] at h
    split at h
    · cases h
      exact Gain.refl k
    · simp only [pages] at h
      split at h
      · rename_i e1
        cases h
        exact mmapCall_none e1
      · rename_i e1
        split at h <;> cases h
        · exact (mmapCall_some e1).munmap
        · exact mmapCall_some e1
  · rw [if_neg hfo] at h
    by_cases hg : isGrant f = true
    · rw [if_pos hg] at h
      split at h
      · cases h
        exact Gain.refl k
      · split at h
        · split at h
          · rename_i e1
            cases h
            exact mmapRange_spec e1
          · rename_i e1
            cases h
            exact (mmapRange_spec e1).2.2
        · cases h
          exact Gain.refl k
    · rw [if_neg hg] at h
      split at h
      · cases h
        exact Gain.refl k
      · split at h
        · rename_i e1
          cases h
          exact mmapCall_none e1
        · rename_i e1
          cases h
          exact mmapCall_some e1

theorem Gain.dropMap {m : XMap} {page : Nat} (h : Gain k k' (ownMaps m) (ownGrants page m)) :
    Gain k (dropMap k' m page) [] [] := by
  cases m with
  | unix a s => exact h.munmap
  | «foreign» a s => exact h.munmap
  | grantAdvance a ms idx rs => exact h.unmapRange
  | grantOnDemand => exact h

/-- the file check of `xenValidate` is the one `MmapXen::new` makes before its first system call -/
theorem newMap_refused (mr) (r : Req) (f : Flags) (page : Nat) (k : Kernel) (sc : Script) (e : BErr)
    (h : fileCheck f r.file r.size = .error e) : newMapWith mr r f page k sc = (.error e, k, sc) := by
  unfold fileCheck at h
  unfold newMapWith
  by_cases hfo : isForeign f = true
  · rw [if_pos (by simp [hfo])] at h
    rw [if_pos hfo, h]
  · by_cases hg : isGrant f = true
    · rw [if_pos (by simp [hg])] at h
      rw [if_neg hfo, if_pos hg, h]
    · rw [if_neg (by simp [hfo, hg])] at h
      rw [if_neg hfo, if_neg hg]
      cases hf : r.file with
      | none => simp [hf] at h
      | some fr =>
        simp only [hf] at h ⊢
        rw [h]

theorem newMap_empty_script (r : Req) (f : Flags) (page : Nat) (k : Kernel) (h : fileCheck f r.file r.size = .ok ()) :
    ∃ m k', newMapWith mmapRange r f page k [] = (.ok m, k', []) := by
  unfold fileCheck at h
  unfold newMapWith
  by_cases hfo : isForeign f = true
  · rw [if_pos (by simp [hfo])] at h
    rw [if_pos hfo, h]
    exact ⟨_, _, rfl⟩
  · by_cases hg : isGrant f = true
    · rw [if_pos (by simp [hg])] at h
      rw [if_neg hfo, if_pos hg, h]
      by_cases ha : mmapInAdvance f = true
      · rw [if_pos ha]
        exact ⟨_, _, rfl⟩
      · rw [if_neg ha]
        exact ⟨_, _, rfl⟩
    · rw [if_neg (by simp [hfo, hg])] at h
      rw [if_neg hfo, if_neg hg]
      cases hf : r.file with
      | none => exact ⟨_, _, rfl⟩
      | some fr =>
        simp only [hf] at h ⊢
        rw [h]
        exact ⟨_, _, rfl⟩

theorem fromRangeCore_eq (mr) (r : Req) (page : Nat) (k : Kernel) (sc : Script) (prot flags : Nat) :
    fromRangeCore mr r page k sc prot flags =
      match xenValidate.xenRest r.toXenReq with
      | .error e => (.error e, k, sc)
      | .ok () =>
        match newMapWith mr r r.xenFlags page k sc with
        | (.error e, k1, sc1) => (.error e, k1, sc1)
        | (.ok m, k1, sc1) =>
          (.ok { size := r.size, prot := prot, flags := flags, fileStart := r.file.map (·.start),
                 xenFlags := r.xenFlags.toNat, xenData := r.xenData, map := m }, k1, sc1) := by
  have ha : xenFlagsAccepted r.xenFlags = match fromBits r.xenFlags with | none => false | some f => isValid f := rfl
  rw [xenRest_eq]
  unfold fromRangeCore
  simp only [Req.toXenReq]
  cases hb : fromBits r.xenFlags with
  | none =>
    rw [hb] at ha
    simp [ha]
  | some f =>
    obtain rfl := ((fromBits_eq_some_iff _ _).1 hb).2
    rw [hb] at ha
    cases hv : isValid r.xenFlags with
    | false => simp [ha, hv]
    | true =>
      cases hc : fileCheck r.xenFlags r.file r.size with
      | error e => simp [ha, hv, newMap_refused mr r _ page k sc e hc]
      | ok u =>
        simp only [ha, hv, Bool.not_true, Bool.false_eq_true, if_false, if_true]
        rfl

/-- the `MAP_FIXED` gate, as `from_range` and as `xenValidate` take it -/
theorem mapFixed_gate (r : Req) :
    (effFlags r = none ∧ xenValidate r.toXenReq = .error .mapFixed) ∨
    (effFlags r = some (r.flags.getD (MAP_NORESERVE ||| MAP_SHARED)) ∧
      xenValidate r.toXenReq = xenValidate.xenRest r.toXenReq) := by
  unfold effFlags xenValidate
  simp only [Req.toXenReq]
  cases r.flags with
  | none => exact .inr ⟨rfl, rfl⟩
  | some fl =>
    dsimp only
    by_cases hfx : fl &&& MAP_FIXED ≠ 0
    · rw [if_pos hfx, if_pos hfx]
      exact .inl ⟨rfl, rfl⟩
    · rw [if_neg hfx, if_neg hfx]
      exact .inr ⟨rfl, rfl⟩

/-- every request `xenValidate` refuses is refused with that error before any system call; every other one goes to
    `newMapWith` with its own flag word, and the region reports the request -/
theorem fromRangeWith_eq (mr) (r : Req) (page : Nat) (k : Kernel) (sc : Script) :
    fromRangeWith mr r page k sc =
      match xenValidate r.toXenReq with
      | .error e => (.error e, k, sc)
      | .ok () =>
        match newMapWith mr r r.xenFlags page k sc with
        | (.error e, k1, sc1) => (.error e, k1, sc1)
        | (.ok m, k1, sc1) =>
          (.ok { size := r.size, prot := r.prot.getD PROT_RW, flags := r.flags.getD (MAP_NORESERVE ||| MAP_SHARED),
                 fileStart := r.file.map (·.start), xenFlags := r.xenFlags.toNat, xenData := r.xenData, map := m },
           k1, sc1) := by
  unfold fromRangeWith
  rcases mapFixed_gate r with ⟨e1, e2⟩ | ⟨e1, e2⟩
  · rw [e1, e2]
  · rw [e1, e2]
    exact fromRangeCore_eq ..

theorem xenValidate_ok {r : Req} (h : xenValidate r.toXenReq = .ok ()) :
    effFlags r = some (r.flags.getD (MAP_NORESERVE ||| MAP_SHARED)) ∧ xenFlagsAccepted r.xenFlags = true ∧
    fileCheck r.xenFlags r.file r.size = .ok () := by
  rcases mapFixed_gate r with ⟨_, e2⟩ | ⟨e1, e2⟩
  · cases e2.symm.trans h
  · exact ⟨e1, xenRest_ok (e2.symm.trans h)⟩

theorem fromRange_spec {r : Req} {page : Nat} {res : Except BErr Region}
    (h : fromRange r page k sc = (res, k', sc')) :
    match res with
    | .error _ => Gain k k' [] []
    | .ok reg => Gain k k' (ownMaps reg.map) (ownGrants page reg.map) := by
  unfold fromRange at h
  rw [fromRangeWith_eq] at h
  split at h
  · cases h
    exact Gain.refl k
  · split at h
    · rename_i e1
      cases h
      exact newMap_spec e1
    · rename_i e1
      cases h
      exact newMap_spec e1

end XenBuild
end VmMem
